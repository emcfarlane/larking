-- Root of the `Larking` library: everything that must build (the property files import all models and lemmas).
import Larking.Props.C01
import Larking.Props.C02
import Larking.Props.C03
import Larking.Props.C04
import Larking.Props.C05
import Larking.Props.C06
import Larking.Props.C07
import Larking.Props.C08
import Larking.Props.C09
import Larking.Props.C10
import Larking.Props.C11
import Larking.Props.C12
import Larking.Props.C13
import Larking.Props.C14
import Larking.Props.C15
import Larking.Props.C16
import Larking.Props.C17
import Larking.Props.C18
import Larking.Props.C19
import Larking.Props.C20
