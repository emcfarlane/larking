import Larking.Gen.Skel
import Larking.Gen.Missing
import Larking.Expected.C17
import Larking.Lemmas.JsonBody
/-
  C17 — Stream codec framing is fragmentation-invariant and limit-safe.  Every theorem is for
  all `Env` (DESIGN §3) and all `Buf`, the look-ahead carried into the call with any spare capacity.
-/
namespace Larking.Props.C17
open Larking.Codec

theorem translator_complete : Gen.missing = [] := by decide

/-- the control skeletons of the modelled functions are the ones the model was written
against (regenerated from /repo on every run). -/
theorem skeleton_unchanged :
    (Gen.Skel.conds_CodecProto_ReadNext,
     Gen.Skel.stmts_CodecProto_ReadNext,
     Gen.Skel.conds_CodecProto_WriteNext,
     Gen.Skel.stmts_CodecProto_WriteNext,
     Gen.Skel.conds_CodecJSON_ReadNext,
     Gen.Skel.stmts_CodecJSON_ReadNext,
     Gen.Skel.conds_CodecJSON_WriteNext,
     Gen.Skel.stmts_CodecJSON_WriteNext,
     Gen.Skel.conds_codecHTTPBody_ReadNext,
     Gen.Skel.stmts_codecHTTPBody_ReadNext,
     Gen.Skel.conds_growcap,
     Gen.Skel.stmts_growcap,
     Gen.Skel.conds_muxOptions_readAll,
     Gen.Skel.stmts_muxOptions_readAll,
     Gen.Skel.conds_streamHTTP_readMsg,
     Gen.Skel.stmts_streamHTTP_readMsg)
  = (Expected.C17.conds_CodecProto_ReadNext,
     Expected.C17.stmts_CodecProto_ReadNext,
     Expected.C17.conds_CodecProto_WriteNext,
     Expected.C17.stmts_CodecProto_WriteNext,
     Expected.C17.conds_CodecJSON_ReadNext,
     Expected.C17.stmts_CodecJSON_ReadNext,
     Expected.C17.conds_CodecJSON_WriteNext,
     Expected.C17.stmts_CodecJSON_WriteNext,
     Expected.C17.conds_codecHTTPBody_ReadNext,
     Expected.C17.stmts_codecHTTPBody_ReadNext,
     Expected.C17.conds_growcap,
     Expected.C17.stmts_growcap,
     Expected.C17.conds_muxOptions_readAll,
     Expected.C17.stmts_muxOptions_readAll,
     Expected.C17.conds_streamHTTP_readMsg,
     Expected.C17.stmts_streamHTTP_readMsg) := rfl

/-- CodecProto frame law: the message written is the message read, the bytes after the
reported length plus the unread bytes are exactly the remainder. -/
theorem readNext_frame_proto (e : Env) (b : Buf) (limit : Nat) (m rest : Bytes)
    (hW : b.data ++ e.data = protoWriteNext m ++ rest)
    (hlim : m.length ≤ limit) (hint : m.length ≤ maxInt) :
    ∃ dst e', protoReadNext e b limit = (.ok ⟨dst, m.length, none⟩, e') ∧
      dst.data.take m.length = m ∧ dst.data.drop m.length ++ e'.data = rest :=
  proto_frame e b limit m rest hW hlim hint

/-- CodecProto sequence law. -/
theorem readNext_sequence_proto (limit : Nat) (ms : List Bytes) (spares : List Nat) (e : Env) (b : Buf)
    (hall : ∀ m ∈ ms, m.length ≤ limit ∧ m.length ≤ maxInt)
    (hW : b.data ++ e.data = (ms.map protoWriteNext).flatten) :
    protoSeq limit (ms.length + 1) spares e b = (ms, some .eof) :=
  proto_sequence limit ms spares e b hall hW

/-- a message longer than the limit — including a prefix too large for the platform
integer, up to 2^64-1 — is an error. -/
theorem readNext_over_limit_proto (e : Env) (b : Buf) (limit size : Nat) (tail : Bytes)
    (hsz : size < 2 ^ 64) (hW : b.data ++ e.data = putVarint size ++ tail)
    (hbig : size > limit ∨ size > maxInt) :
    ∃ dst e', protoReadNext e b limit = (.ok ⟨dst, 0, some .tooLarge⟩, e') :=
  proto_over_limit e b limit size tail hsz hW hbig

/-- never a crash, never a length outside the returned buffer or above the limit, for any
bytes at all. -/
theorem readNext_safe_proto (e : Env) (b : Buf) (limit : Nat) :
    ∃ r e', protoReadNext e b limit = (.ok r, e') ∧ r.n ≤ r.dst.data.length ∧
      (r.err ≠ none → r.n = 0) ∧ (r.err = none → r.n ≤ limit) :=
  proto_safe e b limit

/-- CodecJSON frame and sequence laws (messages the brace scanner closes at their last byte). -/
theorem readNext_frame_json (e : Env) (b : Buf) (limit : Nat) (m rest : Bytes)
    (hW : b.data ++ e.data = jsonWriteNext m ++ rest) (hm : JsonFrame m) (hlim : m.length ≤ limit) :
    ∃ dst e', jsonReadNext e b limit = (⟨dst, m.length, none⟩, e') ∧
      dst.data.take m.length = m ∧ dst.data.drop m.length ++ e'.data = rest :=
  json_frame e b limit m rest hW hm hlim

theorem readNext_sequence_json (limit : Nat) (hl : 0 < limit) (ms : List Bytes) (spares : List Nat)
    (e : Env) (b : Buf) (hall : ∀ m ∈ ms, m.length ≤ limit ∧ JsonFrame m)
    (hW : b.data ++ e.data = (ms.map jsonWriteNext).flatten) :
    jsonSeq limit (ms.length + 1) spares e b = (ms, some .eof) :=
  json_sequence limit hl ms spares e b hall hW

/-- the JSON reader never returns more than `limit` bytes as a message, nor a length outside
the buffer; an error never comes with a message. -/
theorem readNext_safe_json (e : Env) (b : Buf) (limit : Nat) :
    (jsonReadNext e b limit).1.n ≤ (jsonReadNext e b limit).1.dst.data.length ∧
    (jsonReadNext e b limit).1.n ≤ limit ∧
    ((jsonReadNext e b limit).1.err ≠ none → (jsonReadNext e b limit).1.n = 0) :=
  json_safe e b limit

/-- HttpBody chunker: each call returns the next `min limit available` bytes of the stream,
loses nothing, and reports io.EOF only with the final chunk. -/
theorem readNext_chunk_body (e : Env) (b : Buf) (limit : Nat) :
    let r := bodyReadNext e b limit
    r.1.dst.data ++ r.2.data = b.data ++ e.data ∧
    r.1.n ≤ limit ∧ r.1.n ≤ r.1.dst.data.length ∧
    (r.1.err = none → r.1.n = limit) ∧
    (r.1.err ≠ none → r.1.err = some .eof ∧ r.2.data = [] ∧ r.1.n = r.1.dst.data.length) :=
  body_chunk e b limit

-- a concrete fragmented stream with carry-over
example : ∃ dst e', protoReadNext ⟨[98, 99, 2, 120, 121], [1, 1, 3], true, [4, 4, 4]⟩ ⟨[3, 97], 0⟩ 16
      = (.ok ⟨dst, 3, none⟩, e') ∧ dst.data.take 3 = [97, 98, 99] ∧ dst.data.drop 3 ++ e'.data = [2, 120, 121] :=
  readNext_frame_proto _ _ 16 [97, 98, 99] [2, 120, 121] (by decide) (by decide) (by decide)
example : JsonFrame [123, 34, 125, 34, 58, 123, 125, 125] := by   -- {"}":{}}
  show scanPure scanInit _ 0 = some 8; decide
example : (putVarint 300 : Bytes) = [172, 2] := by decide

end Larking.Props.C17

#print axioms Larking.Props.C17.translator_complete
#print axioms Larking.Props.C17.skeleton_unchanged
#print axioms Larking.Props.C17.readNext_frame_proto
#print axioms Larking.Props.C17.readNext_sequence_proto
#print axioms Larking.Props.C17.readNext_over_limit_proto
#print axioms Larking.Props.C17.readNext_safe_proto
#print axioms Larking.Props.C17.readNext_frame_json
#print axioms Larking.Props.C17.readNext_sequence_json
#print axioms Larking.Props.C17.readNext_safe_json
#print axioms Larking.Props.C17.readNext_chunk_body
