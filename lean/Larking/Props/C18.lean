import Larking.Gen.Skel
import Larking.Gen.Missing
import Larking.Expected.C18
import Larking.Lemmas.Events
/-
  C18 — Interceptors and stats handlers see every RPC exactly once.  `Events.serve` is what the three
  serving paths (HTTP transcoding, gRPC / gRPC-web, WebSocket) emit for a handler that performs an
  ARBITRARY script of stream operations and leaves in one of the ways of `Events.Exit`.  Every simple
  statement and condition of the serving functions is part of the regenerated tie.
-/
namespace Larking.Props.C18
open Larking.Events

theorem translator_complete : Gen.missing = [] := by decide

theorem skeleton_unchanged :
    (Gen.Skel.conds_Mux_serveHTTP,
     Gen.Skel.stmts_Mux_serveHTTP,
     Gen.Skel.conds_Mux_serveGRPC,
     Gen.Skel.stmts_Mux_serveGRPC,
     Gen.Skel.conds_streamHTTP_RecvMsg,
     Gen.Skel.stmts_streamHTTP_RecvMsg,
     Gen.Skel.conds_streamHTTP_SendMsg,
     Gen.Skel.stmts_streamHTTP_SendMsg,
     Gen.Skel.conds_streamHTTP_SendHeader,
     Gen.Skel.stmts_streamHTTP_SendHeader,
     Gen.Skel.conds_streamGRPC_RecvMsg,
     Gen.Skel.stmts_streamGRPC_RecvMsg,
     Gen.Skel.conds_streamGRPC_SendMsg,
     Gen.Skel.stmts_streamGRPC_SendMsg,
     Gen.Skel.conds_streamGRPC_SendHeader,
     Gen.Skel.stmts_streamGRPC_SendHeader,
     Gen.Skel.conds_streamWS_RecvMsg,
     Gen.Skel.stmts_streamWS_RecvMsg,
     Gen.Skel.conds_streamWS_SendMsg,
     Gen.Skel.stmts_streamWS_SendMsg,
     Gen.Skel.conds_muxOptions_unary,
     Gen.Skel.stmts_muxOptions_unary,
     Gen.Skel.conds_muxOptions_stream,
     Gen.Skel.stmts_muxOptions_stream,
     Gen.Skel.conds_Mux_registerService,
     Gen.Skel.stmts_Mux_registerService,
     Gen.Skel.conds_createConnHandler,
     Gen.Skel.stmts_createConnHandler,
     Gen.Skel.conds_inPayload,
     Gen.Skel.stmts_inPayload,
     Gen.Skel.conds_outPayload,
     Gen.Skel.stmts_outPayload)
  = (Expected.C18.conds_Mux_serveHTTP,
     Expected.C18.stmts_Mux_serveHTTP,
     Expected.C18.conds_Mux_serveGRPC,
     Expected.C18.stmts_Mux_serveGRPC,
     Expected.C18.conds_streamHTTP_RecvMsg,
     Expected.C18.stmts_streamHTTP_RecvMsg,
     Expected.C18.conds_streamHTTP_SendMsg,
     Expected.C18.stmts_streamHTTP_SendMsg,
     Expected.C18.conds_streamHTTP_SendHeader,
     Expected.C18.stmts_streamHTTP_SendHeader,
     Expected.C18.conds_streamGRPC_RecvMsg,
     Expected.C18.stmts_streamGRPC_RecvMsg,
     Expected.C18.conds_streamGRPC_SendMsg,
     Expected.C18.stmts_streamGRPC_SendMsg,
     Expected.C18.conds_streamGRPC_SendHeader,
     Expected.C18.stmts_streamGRPC_SendHeader,
     Expected.C18.conds_streamWS_RecvMsg,
     Expected.C18.stmts_streamWS_RecvMsg,
     Expected.C18.conds_streamWS_SendMsg,
     Expected.C18.stmts_streamWS_SendMsg,
     Expected.C18.conds_muxOptions_unary,
     Expected.C18.stmts_muxOptions_unary,
     Expected.C18.conds_muxOptions_stream,
     Expected.C18.stmts_muxOptions_stream,
     Expected.C18.conds_Mux_registerService,
     Expected.C18.stmts_Mux_registerService,
     Expected.C18.conds_createConnHandler,
     Expected.C18.stmts_createConnHandler,
     Expected.C18.conds_inPayload,
     Expected.C18.stmts_inPayload,
     Expected.C18.conds_outPayload,
     Expected.C18.stmts_outPayload) := rfl

/-- every handler is entered through exactly one nil-safe interceptor call: the two kinds of
local handlers (generated unary handler receiving `opts.unaryInterceptor`, `opts.stream`), the
two kinds of proxied handlers, and the two nil-safe wrappers themselves — nothing else in
the package invokes an interceptor. -/
theorem interceptor_sites : Gen.Skel.interceptorSites =
    [("Mux.registerService", "d.Handler(ss, ctx, stream.RecvMsg, opts.unaryInterceptor)"),
     ("Mux.registerService", "opts.stream(ss, stream, info, d.Handler)"),
     ("createConnHandler", "opts.stream(nil, stream, info, fn)"),
     ("createConnHandler", "opts.unary(ctx, args, info, fn)"),
     ("muxOptions.stream", "si(srv, ss, info, handler)"),
     ("muxOptions.unary", "ui(ctx, req, info, handler)")] := rfl

/-- the nil-safe wrappers: with an interceptor installed the call IS the interceptor's call
(once, and its result is the result); without, it is the handler's. -/
def nilSafe {Req Res : Type} (ic : Option (Req → (Req → Res) → Res)) (h : Req → Res) (r : Req) : Res :=
  match ic with
  | some f => f r h
  | none => h r
theorem interceptor_result_is_result {Req Res : Type} (f : Req → (Req → Res) → Res) (h : Req → Res) (r : Req) :
    nilSafe (some f) h r = f r h := rfl
theorem no_interceptor_is_handler {Req Res : Type} (h : Req → Res) (r : Req) : nilSafe none h r = h r := rfl

/-- **well-formed**: for every protocol, every handler script and every way of leaving, the
events are tag, in-header, begin, then only payload / out-header / out-trailer events, then
exactly one end — last — carrying the handler's error (or the early error). -/
theorem sequence_wellformed (p : Proto) (acts : List Act) (failed : Bool) (ex : Exit) :
    ∃ mid err, serve p acts failed ex = [.tag, .inHeader, .begin] ++ mid ++ [.fin err] ∧
      (∀ e ∈ mid, e = .inPayload ∨ e = .outHeader ∨ e = .outPayload ∨ e = .outTrailer) ∧
      (ex ≠ .beforeHandler → err = failed) := by
  by_cases hex : ex = .beforeHandler
  · subst hex; exact ⟨[], true, by simp [serve], by simp, by simp⟩
  · obtain ⟨closing, hs, hc⟩ := serve_shape p acts failed hex
    have h1 : ∀ e ∈ (ops p acts false).1, e = .inPayload ∨ e = .outHeader ∨ e = .outPayload ∨ e = .outTrailer :=
      fun e he => by rcases (ops_spec p acts false).1 e he with h | h | h <;> simp [h]
    have h2 : ∀ e ∈ closing, e = .inPayload ∨ e = .outHeader ∨ e = .outPayload ∨ e = .outTrailer := by
      rcases hc with rfl | rfl | ⟨rfl, _⟩ <;> decide
    exact ⟨(ops p acts false).1 ++ closing, failed, by simp [hs],
      fun e he => (List.mem_append.mp he).elim (h1 e) (h2 e), fun _ => rfl⟩

def count (e : Ev) (l : List Ev) : Nat := (l.filter (· == e)).length

private theorem count_eq (e : Ev) (l : List Ev) : count e l = l.count e := List.count_eq_length_filter.symm

/-- **one in-payload per received message, one out-payload per sent message**, whatever the
interleaving, on every protocol. -/
theorem payload_counts (p : Proto) (acts : List Act) (failed : Bool) (ex : Exit) (h : ex ≠ .beforeHandler) :
    count .inPayload (serve p acts failed ex) = (acts.filter (· == .recvOk)).length ∧
    count .outPayload (serve p acts failed ex) = (acts.filter (· == .sendOk)).length := by
  obtain ⟨closing, hs, hc⟩ := serve_shape p acts failed h
  obtain ⟨_, hi, ho, _⟩ := ops_spec p acts false
  simp only [count_eq, ← List.count_eq_length_filter, hs, List.count_append, hi, ho]
  rcases hc with rfl | rfl | ⟨rfl, _⟩ <;> simp

/-- the out-header is reported at most once per RPC. -/
theorem out_header_once (p : Proto) (acts : List Act) (failed : Bool) (ex : Exit) :
    count .outHeader (serve p acts failed ex) ≤ 1 := by
  by_cases hex : ex = .beforeHandler
  · subst hex; simp [count_eq, serve]
  · obtain ⟨closing, hs, hc⟩ := serve_shape p acts failed hex
    have hh := (ops_spec p acts false).2.2.2
    have := Bool.toNat_le (ops p acts false).2
    simp only [count_eq, hs, List.count_append]
    rcases hc with rfl | rfl | ⟨rfl, h2⟩
    · simp; omega
    · simp; omega
    · rw [h2] at hh; simp at hh ⊢; omega

-- a bidi handler over gRPC that fails after two echoes
example : serve .grpc [.recvOk, .sendOk, .recvOk, .sendOk] true .normal =
    [.tag, .inHeader, .begin, .inPayload, .outHeader, .outPayload, .inPayload, .outPayload, .outTrailer, .fin true] := by decide
example : serve .http [.recvOk] true .normal = [.tag, .inHeader, .begin, .inPayload, .outTrailer, .fin true] := by decide
example : serve .grpc [.recvOk] true .ctxDone = [.tag, .inHeader, .begin, .inPayload, .fin true] := by decide

end Larking.Props.C18

#print axioms Larking.Props.C18.translator_complete
#print axioms Larking.Props.C18.skeleton_unchanged
#print axioms Larking.Props.C18.interceptor_sites
#print axioms Larking.Props.C18.interceptor_result_is_result
#print axioms Larking.Props.C18.no_interceptor_is_handler
#print axioms Larking.Props.C18.sequence_wellformed
#print axioms Larking.Props.C18.payload_counts
#print axioms Larking.Props.C18.out_header_once
