import Larking.Gen.Skel
import Larking.Gen.Lexer
import Larking.Gen.Missing
import Larking.Expected.C01
import Larking.Lemmas.Provenance
/-
  C01 — Routing soundness.  The model is the trie of rules.go (`addRule`, `search`,
  `variable.index`, `match`) over the lexers of lexer.go; theorems hold for every list of
  rules, every method/field resolution, every verb and every path (as classified runes),
  with the token array size regenerated from the source.
-/
namespace Larking.Props.C01
open Larking Larking.Lexer Larking.Trie

theorem translator_complete : Gen.missing = [] := by decide

theorem skeleton_unchanged :
    (Gen.Skel.conds_variable_index,
     Gen.Skel.stmts_variable_index,
     Gen.Skel.conds_path_search,
     Gen.Skel.stmts_path_search,
     Gen.Skel.conds_path_match,
     Gen.Skel.stmts_path_match,
     Gen.Skel.conds_path_addRule,
     Gen.Skel.stmts_path_addRule,
     Gen.Skel.conds_path_addVariable,
     Gen.Skel.stmts_path_addVariable,
     Gen.Skel.conds_path_addPath,
     Gen.Skel.stmts_path_addPath,
     Gen.Skel.conds_lexPath,
     Gen.Skel.stmts_lexPath,
     Gen.Skel.conds_lexPathSegment,
     Gen.Skel.stmts_lexPathSegment,
     Gen.Skel.conds_lexer_emit,
     Gen.Skel.stmts_lexer_emit,
     Gen.Skel.conds_Mux_match,
     Gen.Skel.stmts_Mux_match,
     Gen.Skel.conds_Mux_ServeHTTP,
     Gen.Skel.stmts_Mux_ServeHTTP,
     Gen.Skel.conds_params_set,
     Gen.Skel.stmts_params_set,
     Gen.Skel.conds_streamWS_RecvMsg,
     Gen.Skel.stmts_streamWS_RecvMsg,
     Gen.Skel.conds_streamHTTP_RecvMsg,
     Gen.Skel.stmts_streamHTTP_RecvMsg)
  = (Expected.C01.conds_variable_index,
     Expected.C01.stmts_variable_index,
     Expected.C01.conds_path_search,
     Expected.C01.stmts_path_search,
     Expected.C01.conds_path_match,
     Expected.C01.stmts_path_match,
     Expected.C01.conds_path_addRule,
     Expected.C01.stmts_path_addRule,
     Expected.C01.conds_path_addVariable,
     Expected.C01.stmts_path_addVariable,
     Expected.C01.conds_path_addPath,
     Expected.C01.stmts_path_addPath,
     Expected.C01.conds_lexPath,
     Expected.C01.stmts_lexPath,
     Expected.C01.conds_lexPathSegment,
     Expected.C01.stmts_lexPathSegment,
     Expected.C01.conds_lexer_emit,
     Expected.C01.stmts_lexer_emit,
     Expected.C01.conds_Mux_match,
     Expected.C01.stmts_Mux_match,
     Expected.C01.conds_Mux_ServeHTTP,
     Expected.C01.stmts_Mux_ServeHTTP,
     Expected.C01.conds_params_set,
     Expected.C01.stmts_params_set,
     Expected.C01.conds_streamWS_RecvMsg,
     Expected.C01.stmts_streamWS_RecvMsg,
     Expected.C01.conds_streamHTTP_RecvMsg,
     Expected.C01.stmts_streamHTTP_RecvMsg) := rfl

/-- **Routing soundness.** A request is dispatched to a method only along a way through the
trie whose literal / verb edges equal the path's tokens and whose variable edges' patterns
match the tokens they capture (`Reach`); the method at its end was bound there by one of the
accepted rules *of that method*, whose kind is the request's verb or '*', whose template
lexes to exactly that way (same keys, same variable-pattern texts), and whose field paths
are the ones the captures are bound to. -/
theorem route_sound (conv) (rs : List (Rule × Nat × (List Bytes → Option Nat))) (t : Node)
    (hb : buildAll Gen.tokenCap rs .empty = .ok t) (path : List Rune) (verb : Bytes) (m : Meth) (caps : Caps)
    (hroute : matchPath Gen.tokenCap conv t path verb = .found m caps) :
    ∃ ptoks es, lexPath Gen.tokenCap path = .ok ptoks ∧ Reach conv verb t ptoks m caps es ∧
      ∃ e ∈ rs, ∃ b ∈ e.1.bindings, m.mid = e.2.1 ∧ (b.verb = verb ∨ b.verb = starVerb) ∧
        ∃ toks p, lexTemplate Gen.tokenCap b.tmpl = .ok toks ∧
          parseToks e.2.2 (toks.length + 1) toks = .ok p ∧
          es.map keyOf = p.edges.map keyOf ∧ m.vars = p.varfds :=
  Trie.route_sound Gen.tokenCap conv rs t hb path verb m caps hroute

/-- what a variable captures is what its sub-pattern matches: the capture length computed
by `variable.index` is the length of a token prefix the pattern matches (literals equal,
`*` within one segment, `**` up to the verb). -/
theorem capture_matches_pattern (pat rem : List Tok) (k : Nat)
    (h : varIndex pat rem 0 = .ok (some k)) :
    k ≤ rem.length ∧ PatMatch pat (rem.take k) := by
  obtain ⟨j, rfl, hlen, hm⟩ := varIndex_sound pat rem 0 k h
  rw [Nat.zero_add]
  exact ⟨hlen, hm⟩

/-- exactly one capture per variable edge of the way, nothing else is bound by routing. -/
theorem captures_count (conv) (rs : List (Rule × Nat × (List Bytes → Option Nat))) (t : Node)
    (hb : buildAll Gen.tokenCap rs .empty = .ok t) (verb : Bytes) (toks : List Tok) (m : Meth) (caps : Caps)
    (h : search conv verb t toks = .found m caps) : caps.length = m.vars.length :=
  ((search_vars_length (buildAll_WF (WF_empty 0) hb) h).trans (Nat.zero_add _)).symm

/-- no verb / path can crash the router once its rules were accepted. -/
theorem route_no_panic (conv) (rs : List (Rule × Nat × (List Bytes → Option Nat))) (t : Node)
    (hb : buildAll Gen.tokenCap rs .empty = .ok t) (path : List Rune) (verb : Bytes) :
    ∀ s, matchPath Gen.tokenCap conv t path verb ≠ .panic s :=
  Trie.route_no_panic Gen.tokenCap conv rs t hb path verb

-- non-vacuity: "/a/{x}" bound for GET, request "GET /a/b"
private def rA : Rune := ⟨[97], 97, true, true, true, true⟩
private def rB : Rune := ⟨[98], 98, true, true, true, true⟩
private def rX : Rune := ⟨[120], 120, true, true, true, true⟩
private def sl : Rune := ⟨[47], 47, false, false, false, false⟩
private def lb : Rune := ⟨[123], 123, false, false, false, false⟩
private def rb : Rune := ⟨[125], 125, false, false, false, false⟩
private def demoRule : Rule := ⟨⟨[71, 69, 84], [sl, rA, sl, lb, rX, rb], true, true, 0⟩, []⟩
private def demoResolve (ks : List Bytes) : Option Nat := if ks == [[120]] then some 7 else none
example : (match buildAll Gen.tokenCap [(demoRule, 3, demoResolve)] .empty with
    | .ok t =>
      (match matchPath Gen.tokenCap (fun _ _ => true) t [sl, rA, sl, rB] [71, 69, 84] with
       | .found m caps => m.mid == 3 && m.vars == [some 7] && caps == [(some 7, [98])]
       | _ => false)
    | _ => false) = true := by decide

end Larking.Props.C01

#print axioms Larking.Props.C01.translator_complete
#print axioms Larking.Props.C01.skeleton_unchanged
#print axioms Larking.Props.C01.route_sound
#print axioms Larking.Props.C01.capture_matches_pattern
#print axioms Larking.Props.C01.captures_count
#print axioms Larking.Props.C01.route_no_panic
