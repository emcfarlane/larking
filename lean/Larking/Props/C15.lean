import Larking.Gen.Grpc
import Larking.Gen.Missing
import Larking.Lemmas.Timeout
import Larking.Spec.Grpc
import Larking.Gen.Skel
import Larking.Expected.C15
/-
  C15 — gRPC deadlines and cancellation.  `Gen.*` regenerated from /repo, `Spec.*`
  written from the gRPC HTTP/2 protocol document.
-/
namespace Larking.Props.C15
open Larking.Timeout

def decode (s : Bytes) : Outcome Int :=
  decodeTimeout Gen.timeoutUnits Gen.timeoutMinLen Gen.timeoutMaxLen Gen.timeoutAcceptsSign s

theorem translator_complete : Gen.missing = [] := by decide

/-- the functions the deadline / cancellation models were written against. -/
theorem skeleton_unchanged :
    (Gen.Skel.conds_Mux_serveGRPC,
     Gen.Skel.stmts_Mux_serveGRPC,
     Gen.Skel.conds_Mux_serveGRPCWeb,
     Gen.Skel.stmts_Mux_serveGRPCWeb,
     Gen.Skel.conds_decodeTimeout,
     Gen.Skel.stmts_decodeTimeout,
     Gen.Skel.conds_timeoutUnit,
     Gen.Skel.stmts_timeoutUnit,
     Gen.Skel.conds_streamGRPC_isDone,
     Gen.Skel.stmts_streamGRPC_isDone,
     Gen.Skel.conds_streamGRPC_begin,
     Gen.Skel.stmts_streamGRPC_begin,
     Gen.Skel.conds_streamGRPC_close,
     Gen.Skel.stmts_streamGRPC_close,
     Gen.Skel.conds_streamGRPC_RecvMsg,
     Gen.Skel.stmts_streamGRPC_RecvMsg,
     Gen.Skel.conds_streamGRPC_SendMsg,
     Gen.Skel.stmts_streamGRPC_SendMsg,
     Gen.Skel.conds_streamGRPC_SendHeader,
     Gen.Skel.stmts_streamGRPC_SendHeader)
  = (Expected.C15.conds_Mux_serveGRPC,
     Expected.C15.stmts_Mux_serveGRPC,
     Expected.C15.conds_Mux_serveGRPCWeb,
     Expected.C15.stmts_Mux_serveGRPCWeb,
     Expected.C15.conds_decodeTimeout,
     Expected.C15.stmts_decodeTimeout,
     Expected.C15.conds_timeoutUnit,
     Expected.C15.stmts_timeoutUnit,
     Expected.C15.conds_streamGRPC_isDone,
     Expected.C15.stmts_streamGRPC_isDone,
     Expected.C15.conds_streamGRPC_begin,
     Expected.C15.stmts_streamGRPC_begin,
     Expected.C15.conds_streamGRPC_close,
     Expected.C15.stmts_streamGRPC_close,
     Expected.C15.conds_streamGRPC_RecvMsg,
     Expected.C15.stmts_streamGRPC_RecvMsg,
     Expected.C15.conds_streamGRPC_SendMsg,
     Expected.C15.stmts_streamGRPC_SendMsg,
     Expected.C15.conds_streamGRPC_SendHeader,
     Expected.C15.stmts_streamGRPC_SendHeader) := rfl

/-- the unit table in the code is the specification's. -/
theorem units_as_spec : ∀ c : UInt8, unitOf Gen.timeoutUnits c = Spec.unitNs c := by
  intro c
  simp only [Gen.timeoutUnits, unitOf_cons, unitOf_nil, Spec.unitNs, ← UInt8.toNat_inj]
  generalize c.toNat = n
  -- on the six unit bytes by evaluation, elsewhere both sides are 0
  by_cases h : n ∈ [72, 77, 83, 109, 110, 117]
  · simp only [List.mem_cons, List.not_mem_nil, or_false] at h
    rcases h with rfl | rfl | rfl | rfl | rfl | rfl <;> rfl
  · simp only [List.mem_cons, List.not_mem_nil, or_false, not_or] at h
    simp [h]

private theorem unit_range (u : UInt8) :
    Spec.unitNs u = hourNs ∨ (0 ≤ Spec.unitNs u ∧ Spec.unitNs u ≤ 60000000000) := by
  rw [← units_as_spec]
  exact unitOf_ind (P := fun d => d = hourNs ∨ (0 ≤ d ∧ d ≤ 60000000000)) (by decide) (by decide) u

/-- every legal timeout is accepted with the value min(v × unit, MaxInt64): no overflow,
no wrap-around, leading zeros included. -/
theorem timeout_wellformed (ds : Bytes) (u : UInt8) (h1 : 1 ≤ ds.length) (h8 : ds.length ≤ 8)
    (hd : ds.all isDigit = true) (hu : Spec.unitNs u ≠ 0) :
    decode (ds ++ [u]) = .ok (min ((digitsVal ds : Int) * Spec.unitNs u) maxInt64) := by
  have hne : ds ≠ [] := List.ne_nil_of_length_pos h1
  have hmin : ¬ (ds.length + 1 < Gen.timeoutMinLen) := Nat.not_lt.mpr (Nat.succ_le_succ h1)
  have hmax : ¬ (ds.length + 1 > Gen.timeoutMaxLen) := Nat.not_lt.mpr (Nat.succ_le_succ h8)
  rw [decode, decodeTimeout_concat, if_neg hmin, if_neg hmax, units_as_spec, if_neg (mt beq_iff_eq.mp hu),
    show Gen.timeoutAcceptsSign = false from rfl, parseNum_digits ds hne hd]
  exact tail_value (digitsVal_lt8 ds hd h8) (unit_range u)

/-- anything accepted is in the language: a malformed grpc-timeout (empty, too long, sign,
space, fraction, unknown unit …) is refused. -/
theorem timeout_malformed (s : Bytes) (v : Int) (h : decode s = .ok v) : Spec.InTimeoutLanguage s := by
  rcases List.eq_nil_or_concat s with rfl | ⟨ds, u, rfl⟩
  · cases h
  · rw [List.concat_eq_append] at h ⊢
    rw [decode, decodeTimeout_concat, units_as_spec, show Gen.timeoutAcceptsSign = false from rfl] at h
    by_cases hmin : ds.length + 1 < Gen.timeoutMinLen
    · rw [if_pos hmin] at h; cases h
    by_cases hmax : ds.length + 1 > Gen.timeoutMaxLen
    · rw [if_neg hmin, if_pos hmax] at h; cases h
    by_cases hunit : (Spec.unitNs u == 0) = true
    · rw [if_neg hmin, if_neg hmax, if_pos hunit] at h; cases h
    cases hparse : parseNum false ds with
    | none => rw [if_neg hmin, if_neg hmax, if_neg hunit, hparse] at h; cases h
    | some t =>
      exact ⟨ds, u, rfl, Nat.le_of_succ_le_succ (Nat.not_lt.mp hmin),
        Nat.le_of_succ_le_succ (Nat.not_lt.mp hmax), (parseNum_some hparse).2.1, mt beq_iff_eq.mpr hunit⟩

/-- accepted values are non-negative int64 durations. -/
theorem timeout_in_range (s : Bytes) (v : Int) (h : decode s = .ok v) : 0 ≤ v ∧ v ≤ maxInt64 := by
  obtain ⟨ds, u, rfl, h1, h8, hd, hu⟩ := timeout_malformed s v h
  rw [timeout_wellformed ds u h1 h8 hd hu] at h
  injection h with h; subst h
  have hv : (0 : Int) ≤ (digitsVal ds : Int) := Int.natCast_nonneg _
  have hun : 0 ≤ Spec.unitNs u := by
    rcases unit_range u with h | h
    · rw [h]; decide
    · exact h.1
  have := Int.mul_nonneg hv hun
  constructor
  · exact Int.le_min.mpr ⟨this, by decide⟩
  · exact Int.min_le_right _ _

/-- every stream operation that touches the transport consults the cancellation fence
first: once the call is cancelled no `SendHeader` / `SendMsg` / `RecvMsg` proceeds. -/
theorem ops_fail_after_cancel :
    ∀ p ∈ Gen.grpcOpsFenced, ∀ st : StreamState, st.cancelled = true → opProceeds p.2 st = false := by
  have hall : ∀ p ∈ Gen.grpcOpsFenced, p.2 = true := by decide
  intro p hp st hc
  simp [opProceeds, hall p hp, hc]

theorem ops_all_present : Gen.grpcOpsFenced.map (·.1) = ["SendHeader", "SendMsg", "RecvMsg"] := rfl

example : decode [49, 83] = .ok 1000000000 := by decide                      -- "1S"
example : decode [57, 57, 57, 57, 57, 57, 57, 57, 72] = .ok maxInt64 := by decide  -- "99999999H"
example : decode [43, 49, 83] = .err "digits" := by decide                    -- "+1S"
example : Spec.InTimeoutLanguage [48, 48, 55, 109] :=
  ⟨[48, 48, 55], 109, rfl, by decide, by decide, by decide, by decide⟩

/-- a request carrying a legal grpc-timeout `T` runs its handler under a deadline exactly
`min(T, MaxInt64 ns)` after receipt — for every digit string of 1..8 digits (leading zeros,
zero itself) and every unit. -/
theorem legal_timeout_is_the_deadline (ds : Bytes) (u : UInt8) (h1 : 1 ≤ ds.length) (h8 : ds.length ≤ 8)
    (hd : ds.all isDigit = true) (hu : Spec.unitNs u ≠ 0) :
    timeoutGate decode (some (ds ++ [u])) = .run (some (min ((digitsVal ds : Int) * Spec.unitNs u) maxInt64)) := by
  unfold timeoutGate
  have hne : (ds ++ [u]).isEmpty = false := by simp
  simp only [hne, Bool.false_eq_true, if_false, timeout_wellformed ds u h1 h8 hd hu]

/-- a malformed grpc-timeout is refused before any handler is picked: the handler is never
invoked. -/
theorem malformed_timeout_refused (v : Bytes) (hv : v ≠ []) (hbad : ¬ Spec.InTimeoutLanguage v) :
    timeoutGate decode (some v) = .refused := by
  unfold timeoutGate
  have hne : v.isEmpty = false := List.isEmpty_eq_false_iff.mpr hv
  simp only [hne, Bool.false_eq_true, if_false]
  cases hdec : decode v with
  | ok d => exact absurd (timeout_malformed v d hdec) hbad
  | err k => rfl
  | panic x => rfl

/-- no header (or an empty one): the handler runs without a deadline of its own. -/
theorem no_timeout_no_deadline : timeoutGate decode none = .run none ∧ timeoutGate decode (some []) = .run none := by
  constructor <;> rfl

example : ∃ d, timeoutGate decode (some [48, 83]) = .run (some d) :=
  ⟨_, legal_timeout_is_the_deadline [48] 83 (by decide) (by decide) (by decide) (by decide)⟩

end Larking.Props.C15

#print axioms Larking.Props.C15.translator_complete
#print axioms Larking.Props.C15.skeleton_unchanged
#print axioms Larking.Props.C15.units_as_spec
#print axioms Larking.Props.C15.timeout_wellformed
#print axioms Larking.Props.C15.timeout_malformed
#print axioms Larking.Props.C15.timeout_in_range
#print axioms Larking.Props.C15.ops_fail_after_cancel
#print axioms Larking.Props.C15.ops_all_present
#print axioms Larking.Props.C15.legal_timeout_is_the_deadline
#print axioms Larking.Props.C15.malformed_timeout_refused
#print axioms Larking.Props.C15.no_timeout_no_deadline
