import Larking.Gen.Skel
import Larking.Gen.Missing
import Larking.Expected.C08
import Larking.Lemmas.Streams
import Larking.Model.Ws
/-
  C08 — Message size limits on every protocol.  For each receive path: over the limit ⇒ an
  error (never a message); within the limit ⇒ delivered; sizes up to 2^64-1 where a length
  prefix can say so.  Decompression is a parameter; the check is on the decompressed size.
-/
namespace Larking.Props.C08
open Larking.Codec Larking.Streams Larking.Status

theorem translator_complete : Gen.missing = [] := by decide

theorem skeleton_unchanged :
    (Gen.Skel.conds_muxOptions_readAll,
     Gen.Skel.stmts_muxOptions_readAll,
     Gen.Skel.conds_muxOptions_writeAll,
     Gen.Skel.stmts_muxOptions_writeAll,
     Gen.Skel.conds_streamGRPC_RecvMsg,
     Gen.Skel.stmts_streamGRPC_RecvMsg,
     Gen.Skel.conds_streamGRPC_SendMsg,
     Gen.Skel.stmts_streamGRPC_SendMsg,
     Gen.Skel.conds_streamWS_RecvMsg,
     Gen.Skel.stmts_streamWS_RecvMsg,
     Gen.Skel.conds_streamHTTP_readMsg,
     Gen.Skel.stmts_streamHTTP_readMsg,
     Gen.Skel.conds_CodecProto_ReadNext,
     Gen.Skel.stmts_CodecProto_ReadNext,
     Gen.Skel.conds_CodecJSON_ReadNext,
     Gen.Skel.stmts_CodecJSON_ReadNext,
     Gen.Skel.conds_codecHTTPBody_ReadNext,
     Gen.Skel.stmts_codecHTTPBody_ReadNext)
  = (Expected.C08.conds_muxOptions_readAll,
     Expected.C08.stmts_muxOptions_readAll,
     Expected.C08.conds_muxOptions_writeAll,
     Expected.C08.stmts_muxOptions_writeAll,
     Expected.C08.conds_streamGRPC_RecvMsg,
     Expected.C08.stmts_streamGRPC_RecvMsg,
     Expected.C08.conds_streamGRPC_SendMsg,
     Expected.C08.stmts_streamGRPC_SendMsg,
     Expected.C08.conds_streamWS_RecvMsg,
     Expected.C08.stmts_streamWS_RecvMsg,
     Expected.C08.conds_streamHTTP_readMsg,
     Expected.C08.stmts_streamHTTP_readMsg,
     Expected.C08.conds_CodecProto_ReadNext,
     Expected.C08.stmts_CodecProto_ReadNext,
     Expected.C08.conds_CodecJSON_ReadNext,
     Expected.C08.stmts_CodecJSON_ReadNext,
     Expected.C08.conds_codecHTTPBody_ReadNext,
     Expected.C08.stmts_codecHTTPBody_ReadNext) := rfl

/-- HTTP unary (`readAll`): a body of at most `limit` bytes is returned whole … -/
theorem readAll_within_limit (e : Env) (limit spare : Nat) (h : e.data.length ≤ limit) :
    (readAll e ⟨[], spare⟩ limit).2.1 = none ∧ (readAll e ⟨[], spare⟩ limit).1.data = e.data := by
  have := (readAllLoop_spec e ⟨[], spare⟩ 0 limit (Nat.zero_le _)).1 (by rwa [Nat.zero_add])
  exact ⟨this.1, by simpa [readAll] using this.2.1⟩

/-- … one byte more is an error, however the body is fragmented and wherever io.EOF arrives. -/
theorem readAll_over_limit (e : Env) (limit spare : Nat) (h : e.data.length > limit) :
    (readAll e ⟨[], spare⟩ limit).2.1 = some .tooLarge :=
  (readAllLoop_spec e ⟨[], spare⟩ 0 limit (Nat.zero_le _)).2 (by rwa [Nat.zero_add])

/-- HTTP streams, every codec: no message handed to the handler exceeds the limit. -/
theorem http_stream_msg_within_limit (k : CodecK) (limit spare : Nat) (s : HS) (b : Bytes)
    (h : (readMsg k limit spare s).1 = .msg b) : b.length ≤ limit :=
  (readMsg_safe k limit spare s).2.1 b h

/-- length-delimited protobuf: a prefix over the limit, up to 2^64-1, is an error. -/
theorem proto_prefix_over_limit (e : Env) (b : Buf) (limit size : Nat) (tail : Bytes)
    (hsz : size < 2 ^ 64) (hW : b.data ++ e.data = putVarint size ++ tail)
    (hbig : size > limit ∨ size > maxInt) :
    ∃ dst e', protoReadNext e b limit = (.ok ⟨dst, 0, some .tooLarge⟩, e') :=
  proto_over_limit e b limit size tail hsz hW hbig

/-- … and a message exactly at the limit is delivered. -/
theorem proto_at_limit_accepted (e : Env) (b : Buf) (m rest : Bytes)
    (hW : b.data ++ e.data = protoWriteNext m ++ rest) (hint : m.length ≤ maxInt) :
    ∃ dst e', protoReadNext e b m.length = (.ok ⟨dst, m.length, none⟩, e') ∧
      dst.data.take m.length = m ∧ dst.data.drop m.length ++ e'.data = rest :=
  proto_frame e b m.length m rest hW (Nat.le_refl _) hint

/-- gRPC / gRPC-web: a frame announcing more than the limit is refused … -/
theorem grpc_frame_over_limit (gunzip) (maxRecv : Nat) (e : Env) (flag : UInt8) (size : Nat) (tail : Bytes)
    (hW : e.data = flag :: be32 size ++ tail) (h32 : size < 4294967296) (hbig : size > maxRecv) :
    ∃ e', grpcRecv gunzip maxRecv e = (.err .tooLarge, e') := by
  obtain ⟨e1, -, h⟩ := grpc_header gunzip maxRecv e flag size tail hW h32
  exact ⟨e1, by rw [h, if_pos hbig]⟩

/-- … a frame at or under it is delivered … -/
theorem grpc_frame_within_limit (gunzip) (maxRecv : Nat) (e : Env) (m rest : Bytes)
    (hW : e.data = frame 0 m ++ rest) (hlim : m.length ≤ maxRecv) (h32 : m.length < 4294967296) :
    ∃ e', grpcRecv gunzip maxRecv e = (.msg m, e') ∧ e'.data = rest :=
  grpc_frame gunzip maxRecv e 0 m rest (by decide) hW hlim h32

/-- … and a compressed frame is judged by its size **after** decompression. -/
theorem grpc_decompressed_limit (gz : Bytes → Option Bytes) (maxRecv : Nat) (e : Env) (z plain rest : Bytes)
    (hW : e.data = frame 1 z ++ rest) (hz : z.length ≤ maxRecv) (h32 : z.length < 4294967296)
    (hgz : gz z = some plain) :
    ∃ e', grpcRecv (some gz) maxRecv e =
        (if plain.length > maxRecv then .err .tooLarge else .msg plain, e') ∧ e'.data = rest := by
  obtain ⟨e1, hd1, h⟩ := grpc_header (some gz) maxRecv e 1 z.length (z ++ rest)
    (by simpa [frame] using hW) h32
  obtain ⟨e2, h2, hd2⟩ := readExactly_prefix e1 z rest hd1
  rw [h, if_neg (Nat.not_lt.2 hz), h2]
  simp only [beq_self_eq_true, if_true, hgz]
  exact ⟨e2, by split <;> rfl, hd2⟩

/-- replies: within the send limit ⇒ framed and sent, over it ⇒ refused (the send limit, not the
receive limit, decides). -/
theorem grpc_send_limit (maxSend : Nat) (payload : Bytes) :
    (payload.length ≤ maxSend → grpcSend none maxSend payload = some (frame 0 payload)) ∧
    (payload.length > maxSend → grpcSend none maxSend payload = none) :=
  Streams.grpc_send_limit maxSend payload

open Larking.Ws

/-- a client message longer than the receive limit is refused and never reaches the handler … -/
theorem ws_over_limit_refused (maxRecv : Nat) (hpos : 0 < maxRecv) (decodes) (b : Bytes) (rest : List Ws.Frame)
    (h : maxRecv < b.length) : recv ⟨true, maxRecv⟩ decodes (.data b :: rest) = (.tooLarge, rest) := by
  simp [recv, hpos, h]

/-- … one within the limit (or any, when no limit is configured) is delivered as it is. -/
theorem ws_within_limit_delivered (maxRecv : Nat) (decodes) (b : Bytes) (rest : List Ws.Frame)
    (h : maxRecv = 0 ∨ b.length ≤ maxRecv) (hd : decodes b = true) :
    recv ⟨true, maxRecv⟩ decodes (.data b :: rest) = (.msg b, rest) := by
  have : ¬ (0 < maxRecv ∧ maxRecv < b.length) := by omega
  simp [recv, this, hd]

/-- **sequence fidelity**: the handler of a WebSocket binding with a body receives exactly the
client's messages, in order, then the end (the close frame) — each message within the limit. -/
theorem ws_recv_sequence (maxRecv : Nat) (decodes) (msgs : List Bytes)
    (hl : ∀ b ∈ msgs, maxRecv = 0 ∨ b.length ≤ maxRecv) (hd : ∀ b ∈ msgs, decodes b = true) (fuel : Nat)
    (hf : msgs.length < fuel) :
    Ws.recvAll ⟨true, maxRecv⟩ decodes fuel (msgs.map .data ++ [.closed]) = msgs.map .msg ++ [.err] := by
  induction msgs generalizing fuel with
  | nil =>
    cases fuel with
    | zero => simp at hf
    | succ f => simp [Ws.recvAll, recv]
  | cons b rest ih =>
    cases fuel with
    | zero => simp at hf
    | succ f =>
      have hr := ws_within_limit_delivered maxRecv decodes b (rest.map .data ++ [.closed]) (hl b (by simp)) (hd b (by simp))
      simp only [List.map_cons, List.cons_append, Ws.recvAll, hr]
      rw [ih (fun x hx => hl x (by simp [hx])) (fun x hx => hd x (by simp [hx])) f (Nat.lt_of_succ_lt_succ hf)]

/-- a binding without a body never reads the connection: every receive yields the message built
from the URL (a handler that receives in a loop never sees an end — observation in DESIGN §8). -/
theorem ws_bodyless_reads_nothing (maxRecv : Nat) (decodes) (frames : List Ws.Frame) :
    recv ⟨false, maxRecv⟩ decodes frames = (.fromURL, frames) := by simp [recv]

end Larking.Props.C08

#print axioms Larking.Props.C08.translator_complete
#print axioms Larking.Props.C08.skeleton_unchanged
#print axioms Larking.Props.C08.readAll_within_limit
#print axioms Larking.Props.C08.readAll_over_limit
#print axioms Larking.Props.C08.http_stream_msg_within_limit
#print axioms Larking.Props.C08.proto_prefix_over_limit
#print axioms Larking.Props.C08.proto_at_limit_accepted
#print axioms Larking.Props.C08.grpc_frame_over_limit
#print axioms Larking.Props.C08.grpc_frame_within_limit
#print axioms Larking.Props.C08.grpc_decompressed_limit
#print axioms Larking.Props.C08.grpc_send_limit
#print axioms Larking.Props.C08.ws_over_limit_refused
#print axioms Larking.Props.C08.ws_within_limit_delivered
#print axioms Larking.Props.C08.ws_recv_sequence
#print axioms Larking.Props.C08.ws_bodyless_reads_nothing
