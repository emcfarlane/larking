import Larking.Gen.Skel
import Larking.Gen.Proxy
import Larking.Gen.Missing
import Larking.Expected.C10
import Larking.Model.Proxy
/-
  C10 — Proxying through RegisterConn is transparent, against ANY backend behaviour (`Proxy.Backend`:
  succeeding, failing before / during / after the stream with any code and payload, or never finishing).
  `isStreamError`'s case list and the place of the pump's CloseSend are regenerated from the AST.
-/
namespace Larking.Props.C10
open Larking.Proxy

theorem translator_complete : Gen.missing = [] := by decide

theorem skeleton_unchanged :
    (Gen.Skel.conds_createConnHandler,
     Gen.Skel.stmts_createConnHandler,
     Gen.Skel.conds_isStreamError,
     Gen.Skel.stmts_isStreamError,
     Gen.Skel.conds_streamHTTP_RecvMsg,
     Gen.Skel.stmts_streamHTTP_RecvMsg,
     Gen.Skel.conds_Mux_serveHTTP,
     Gen.Skel.stmts_Mux_serveHTTP)
  = (Expected.C10.conds_createConnHandler,
     Expected.C10.stmts_createConnHandler,
     Expected.C10.conds_isStreamError,
     Expected.C10.stmts_isStreamError,
     Expected.C10.conds_streamHTTP_RecvMsg,
     Expected.C10.stmts_streamHTTP_RecvMsg,
     Expected.C10.conds_Mux_serveHTTP,
     Expected.C10.stmts_Mux_serveHTTP) := rfl

/-- the regenerated `isStreamError`: exactly nil, io.EOF and the raw context.Canceled are
"no error"; every status error — whatever its code — is one. -/
def exempt : Bool × Bool × Bool × Option Nat :=
  (Gen.Proxy.streamErrorCases.contains "nil" && Gen.Proxy.streamErrorCaseResult == "false",
   Gen.Proxy.streamErrorCases.contains "io.EOF" && Gen.Proxy.streamErrorCaseResult == "false",
   Gen.Proxy.streamErrorCases.contains "context.Canceled" && Gen.Proxy.streamErrorCaseResult == "false",
   none)

theorem stream_error_as_modelled :
    Gen.Proxy.streamErrorCases = ["nil", "io.EOF", "context.Canceled"] ∧
    Gen.Proxy.streamErrorCaseResult = "false" ∧ Gen.Proxy.streamErrorDefault = "true" ∧
    exempt = (true, true, true, none) := by decide

theorem pump_half_closes_after_loop :
    Gen.Proxy.closeSendAfterLoop = true ∧ Gen.Proxy.closeSendInLoop = false := by decide

/-- the forwarder's filter (`isStreamError`, as regenerated) holds back nothing but OK, which it
replaces by OK. -/
private theorem relay (st : Status) (hok : st.code = 0 → st = Status.ok) :
    isStreamError true true true none (asErr st) = true ∨ st = Status.ok := by
  by_cases hc : st.code = 0
  · exact .inr (hok hc)
  · exact .inl (by simp [asErr, hc, isStreamError])

/-- **streaming calls**: for every backend behaviour, every client message list (empty
included) and every streaming shape, the backend receives the same messages and half-close
and the client receives the same replies and the same final status (code and payload) as in
the direct call — also when the backend never finishes. A non-client-streaming call carries
exactly one request message; an OK status is the OK status. -/
theorem stream_transparent {Msg Rep : Type} (B : Backend Msg Rep) (ms : List Msg) (cs ss : Bool)
    (hshape : cs = false → ms.length = 1)
    (hok : ∀ l hc st, (B l hc).2 = some st → st.code = 0 → st = Status.ok) :
    let p := streamProxy exempt Gen.Proxy.closeSendAfterLoop cs ss B ms
    let d := direct ss B ms
    p.backendGot = d.backendGot ∧ p.backendHalfClosed = d.backendHalfClosed ∧
    p.clientGot = d.clientGot ∧ p.clientStatus = d.clientStatus := by
  rw [stream_error_as_modelled.2.2.2, show Gen.Proxy.closeSendAfterLoop = true from rfl]
  cases ms with
  | nil =>
    cases cs with
    | false => simp at hshape
    | true =>
      simp only [streamProxy, direct, Bool.not_true, Bool.false_eq_true, if_false]
      cases hr : (B [] true).2 with
      | none => simp
      | some st => rcases relay st (hok _ _ st hr) with h | rfl <;> simp [*]
  | cons first rest =>
    have hsent : (if cs = true then first :: rest else [first]) = first :: rest := by
      cases cs with
      | true => rfl
      | false =>
        have := hshape rfl
        simp at this; subst this; rfl
    simp only [streamProxy, direct, hsent]
    cases hr : (B (first :: rest) true).2 with
    | none => simp
    | some st => rcases relay st (hok _ _ st hr) with h | rfl <;> simp [*]

/-- **unary calls**: same messages to the backend, same reply and same status to the client. -/
theorem unary_transparent {Msg Rep : Type} (B : Backend Msg Rep) (m : Msg) :
    let p := unaryProxy B m
    let d := direct false B [m]
    p.backendGot = d.backendGot ∧ p.backendHalfClosed = d.backendHalfClosed ∧
    p.clientGot = d.clientGot ∧ p.clientStatus = d.clientStatus := by
  simp only [unaryProxy, direct]
  cases (B [m] true).2 <;> simp

/-- contrast (seeded): with the CloseSend inside the loop an empty client stream is never
half-closed, and a backend that answers at half-close never answers. -/
theorem empty_stream_needs_half_close :
    let B : Backend Nat Nat := fun ms hc => if hc then ([ms.length], some Status.ok) else ([], none)
    (streamProxy (true, true, true, none) false true false B []).clientStatus = none ∧
    (direct false B []).clientStatus = some Status.ok := by decide

/-- contrast (seeded): exempting status code Canceled turns the backend's Canceled into OK. -/
theorem canceled_status_must_not_be_exempt :
    let B : Backend Nat Nat := fun _ _ => ([], some ⟨1, 42⟩)
    (streamProxy (true, true, true, some 1) true true true B [5]).clientStatus = some Status.ok ∧
    (direct true B [5]).clientStatus = some ⟨1, 42⟩ := by decide

-- a backend that fails with DataLoss after two replies of a bidi stream
example : (streamProxy exempt true true true (fun (ms : List Nat) _ => (ms.take 2, some ⟨15, 7⟩)) [1, 2, 3]).clientGot = [1, 2] ∧
    (streamProxy exempt true true true (fun (ms : List Nat) _ => (ms.take 2, some ⟨15, 7⟩)) [1, 2, 3]).clientStatus = some ⟨15, 7⟩ := by decide

/-- the forwarder lets the io.EOF of its first `SendMsg` fall through to `RecvMsg` (regenerated
condition of that `if`). -/
theorem first_send_eof_is_not_final : Gen.Proxy.firstSendErrorCond = "err != nil && err != io.EOF" := rfl

/-- **a backend that ends the call before the first message is forwarded**: the client still gets
the backend's own status (an OK status being the OK status) — for every status. -/
theorem early_backend_status_reaches_client (st : Status) (hok : st.code = 0 → st = Status.ok) :
    earlyEnd exempt false st = st := by
  rw [stream_error_as_modelled.2.2.2]
  rcases relay st hok with h | rfl <;> simp [earlyEnd, *]

/-- contrast — the code before fix `0aba31b` returned that io.EOF: every early status became Unknown. -/
theorem eof_as_final_loses_the_status : earlyEnd exempt true ⟨9, 7⟩ ≠ ⟨9, 7⟩ := by decide

end Larking.Props.C10

#print axioms Larking.Props.C10.translator_complete
#print axioms Larking.Props.C10.skeleton_unchanged
#print axioms Larking.Props.C10.stream_error_as_modelled
#print axioms Larking.Props.C10.pump_half_closes_after_loop
#print axioms Larking.Props.C10.stream_transparent
#print axioms Larking.Props.C10.unary_transparent
#print axioms Larking.Props.C10.empty_stream_needs_half_close
#print axioms Larking.Props.C10.canceled_status_must_not_be_exempt
#print axioms Larking.Props.C10.first_send_eof_is_not_final
#print axioms Larking.Props.C10.early_backend_status_reaches_client
#print axioms Larking.Props.C10.eof_as_final_loses_the_status
