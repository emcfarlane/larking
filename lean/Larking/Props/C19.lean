import Larking.Gen.Skel
import Larking.Gen.Health
import Larking.Gen.Missing
import Larking.Expected.C19
import Larking.Lemmas.Selector
/-
  C19 — Service-config rules bind exactly the selected methods.
-/
namespace Larking.Props.C19
open Larking.Selector

theorem translator_complete : Gen.missing = [] := by decide

theorem skeleton_unchanged :
    (Gen.Skel.conds_ruleSelector_getRules,
     Gen.Skel.stmts_ruleSelector_getRules,
     Gen.Skel.conds_ruleSelector_setRules,
     Gen.Skel.stmts_ruleSelector_setRules,
     Gen.Skel.conds_AddHealthz,
     Gen.Skel.stmts_AddHealthz)
  = (Expected.C19.conds_ruleSelector_getRules,
     Expected.C19.stmts_ruleSelector_getRules,
     Expected.C19.conds_ruleSelector_setRules,
     Expected.C19.stmts_ruleSelector_setRules,
     Expected.C19.conds_AddHealthz,
     Expected.C19.stmts_AddHealthz) := rfl

/-- `setRules` followed by `getRules(name)`: rule `j` is returned **iff** its selector is the
method's qualified name or a trailing-wildcard pattern covering it — for every set of
well-formed selectors and every name; and `setRules` does not panic on them. -/
theorem getRules_spec (sels : List (List String)) (hall : ∀ s ∈ sels, okSel s = true) :
    ∃ t, setRules sels = .ok t ∧
      ∀ name, okName name = true → ∀ j, j ∈ t.get name ↔ ∃ sel, sels[j]? = some sel ∧ selects sel name := by
  obtain ⟨t, ht, hg⟩ := build_spec sels 0 .empty hall
  exact ⟨t, ht, fun name hn j => by simp [hg name hn j, empty_get, List.mk_mem_zipIdx_iff_getElem?]⟩

/-- an exact selector never covers a longer or different name, a wildcard never covers its
own prefix (the two historical over-bindings). -/
theorem exact_is_not_prefix (p more : List String) (hm : more ≠ []) (hp : ∀ c ∈ p, c ≠ "*") :
    ¬ selects p (p ++ more) := by
  rw [selects_exact hp]
  exact fun h => hm (List.append_right_eq_self.mp h)

theorem wildcard_not_on_own_name (p : List String) (hp : ∀ c ∈ p, c ≠ "*") : ¬ selects (p ++ ["*"]) p := by
  rintro (h | ⟨q, m2, h1, h2, h3⟩)
  · cases List.append_right_eq_self.mp h
  · cases List.append_inj_left' h1 rfl
    exact h2 (List.self_eq_append_right.mp h3)

/-- health.AddHealthz: Check on GET /v1/healthz, Watch on WEBSOCKET /v1/healthz, nothing else. -/
def Spec.healthzRules : List (String × String × String) :=
  [("grpc.health.v1.Health.Check", "GET", "/v1/healthz"),
   ("grpc.health.v1.Health.Watch", "WEBSOCKET", "/v1/healthz")]

theorem healthz_rules : Gen.healthzRules = Spec.healthzRules := rfl

/-- … and those two selectors bind exactly the two methods. -/
theorem healthz_selects_exactly :
    ∃ t, setRules [["grpc", "health", "v1", "Health", "Check"], ["grpc", "health", "v1", "Health", "Watch"]] = .ok t ∧
      ∀ name, okName name = true →
        (0 ∈ t.get name ↔ name = ["grpc", "health", "v1", "Health", "Check"]) ∧
        (1 ∈ t.get name ↔ name = ["grpc", "health", "v1", "Health", "Watch"]) := by
  obtain ⟨t, ht, hg⟩ := getRules_spec
    [["grpc", "health", "v1", "Health", "Check"], ["grpc", "health", "v1", "Health", "Watch"]] (by decide)
  refine ⟨t, ht, ?_⟩
  intro name hn
  constructor
  · rw [hg name hn 0]; simp [selects_exact (by decide : ∀ c ∈ ["grpc", "health", "v1", "Health", "Check"], c ≠ "*")]
  · rw [hg name hn 1]; simp [selects_exact (by decide : ∀ c ∈ ["grpc", "health", "v1", "Health", "Watch"], c ≠ "*")]

example : okSel ["pkg", "Svc", "*"] = true ∧ okName ["pkg", "Svc", "Get"] = true := by decide
example : selects ["pkg", "*"] ["pkg", "Svc", "Get"] := Or.inr ⟨["pkg"], ["Svc", "Get"], rfl, by simp, rfl⟩

end Larking.Props.C19

#print axioms Larking.Props.C19.translator_complete
#print axioms Larking.Props.C19.skeleton_unchanged
#print axioms Larking.Props.C19.getRules_spec
#print axioms Larking.Props.C19.exact_is_not_prefix
#print axioms Larking.Props.C19.wildcard_not_on_own_name
#print axioms Larking.Props.C19.healthz_rules
#print axioms Larking.Props.C19.healthz_selects_exactly
