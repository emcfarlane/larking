import Larking.Gen.Skel
import Larking.Gen.Sites
import Larking.Gen.Missing
import Larking.Expected.C09
import Larking.Props.C01
import Larking.Props.C05
import Larking.Props.C06
import Larking.Props.C15
import Larking.Props.C16
import Larking.Props.C17
/-
  C09 — No request can crash or wedge the server.  Panics are outcomes and loops total
  functions (DESIGN §3); this file gathers, for the request-handling code, the no-panic
  theorems over every byte / rune sequence and every reader schedule, and ties the set of
  places that COULD crash (every index, slice, type assertion and panic call of the package)
  to the audited snapshot.
-/
namespace Larking.Props.C09

theorem translator_complete : Gen.missing = [] := by decide

theorem skeleton_unchanged :
    (Gen.Skel.conds_Mux_ServeHTTP,
     Gen.Skel.stmts_Mux_ServeHTTP,
     Gen.Skel.conds_Mux_serveGRPC,
     Gen.Skel.stmts_Mux_serveGRPC,
     Gen.Skel.conds_Mux_serveGRPCWeb,
     Gen.Skel.stmts_Mux_serveGRPCWeb,
     Gen.Skel.conds_Mux_serveHTTP,
     Gen.Skel.stmts_Mux_serveHTTP,
     Gen.Skel.conds_variable_index,
     Gen.Skel.stmts_variable_index,
     Gen.Skel.conds_path_search,
     Gen.Skel.stmts_path_search,
     Gen.Skel.conds_path_match,
     Gen.Skel.stmts_path_match,
     Gen.Skel.conds_lexPath,
     Gen.Skel.stmts_lexPath,
     Gen.Skel.conds_lexPathSegment,
     Gen.Skel.stmts_lexPathSegment,
     Gen.Skel.conds_lexer_emit,
     Gen.Skel.stmts_lexer_emit,
     Gen.Skel.conds_CodecProto_ReadNext,
     Gen.Skel.stmts_CodecProto_ReadNext,
     Gen.Skel.conds_CodecJSON_ReadNext,
     Gen.Skel.stmts_CodecJSON_ReadNext,
     Gen.Skel.conds_codecHTTPBody_ReadNext,
     Gen.Skel.stmts_codecHTTPBody_ReadNext,
     Gen.Skel.conds_streamGRPC_RecvMsg,
     Gen.Skel.stmts_streamGRPC_RecvMsg,
     Gen.Skel.conds_streamHTTP_readMsg,
     Gen.Skel.stmts_streamHTTP_readMsg,
     Gen.Skel.conds_decodeTimeout,
     Gen.Skel.stmts_decodeTimeout,
     Gen.Skel.conds_HTTPStatusCode,
     Gen.Skel.stmts_HTTPStatusCode,
     Gen.Skel.conds_WSStatusCode,
     Gen.Skel.stmts_WSStatusCode,
     Gen.Skel.conds_params_set,
     Gen.Skel.stmts_params_set,
     Gen.Skel.conds_fieldPath,
     Gen.Skel.stmts_fieldPath,
     Gen.Skel.conds_method_parseQueryParams,
     Gen.Skel.stmts_method_parseQueryParams,
     Gen.Skel.conds_parseParam,
     Gen.Skel.stmts_parseParam,
     Gen.Skel.conds_streamGRPC_decompress,
     Gen.Skel.stmts_streamGRPC_decompress,
     Gen.Skel.conds_streamGRPC_compress,
     Gen.Skel.stmts_streamGRPC_compress,
     Gen.Skel.conds_Mux_encError,
     Gen.Skel.stmts_Mux_encError)
  = (Expected.C09.conds_Mux_ServeHTTP,
     Expected.C09.stmts_Mux_ServeHTTP,
     Expected.C09.conds_Mux_serveGRPC,
     Expected.C09.stmts_Mux_serveGRPC,
     Expected.C09.conds_Mux_serveGRPCWeb,
     Expected.C09.stmts_Mux_serveGRPCWeb,
     Expected.C09.conds_Mux_serveHTTP,
     Expected.C09.stmts_Mux_serveHTTP,
     Expected.C09.conds_variable_index,
     Expected.C09.stmts_variable_index,
     Expected.C09.conds_path_search,
     Expected.C09.stmts_path_search,
     Expected.C09.conds_path_match,
     Expected.C09.stmts_path_match,
     Expected.C09.conds_lexPath,
     Expected.C09.stmts_lexPath,
     Expected.C09.conds_lexPathSegment,
     Expected.C09.stmts_lexPathSegment,
     Expected.C09.conds_lexer_emit,
     Expected.C09.stmts_lexer_emit,
     Expected.C09.conds_CodecProto_ReadNext,
     Expected.C09.stmts_CodecProto_ReadNext,
     Expected.C09.conds_CodecJSON_ReadNext,
     Expected.C09.stmts_CodecJSON_ReadNext,
     Expected.C09.conds_codecHTTPBody_ReadNext,
     Expected.C09.stmts_codecHTTPBody_ReadNext,
     Expected.C09.conds_streamGRPC_RecvMsg,
     Expected.C09.stmts_streamGRPC_RecvMsg,
     Expected.C09.conds_streamHTTP_readMsg,
     Expected.C09.stmts_streamHTTP_readMsg,
     Expected.C09.conds_decodeTimeout,
     Expected.C09.stmts_decodeTimeout,
     Expected.C09.conds_HTTPStatusCode,
     Expected.C09.stmts_HTTPStatusCode,
     Expected.C09.conds_WSStatusCode,
     Expected.C09.stmts_WSStatusCode,
     Expected.C09.conds_params_set,
     Expected.C09.stmts_params_set,
     Expected.C09.conds_fieldPath,
     Expected.C09.stmts_fieldPath,
     Expected.C09.conds_method_parseQueryParams,
     Expected.C09.stmts_method_parseQueryParams,
     Expected.C09.conds_parseParam,
     Expected.C09.stmts_parseParam,
     Expected.C09.conds_streamGRPC_decompress,
     Expected.C09.stmts_streamGRPC_decompress,
     Expected.C09.conds_streamGRPC_compress,
     Expected.C09.stmts_streamGRPC_compress,
     Expected.C09.conds_Mux_encError,
     Expected.C09.stmts_Mux_encError) := rfl

/-- every index / slice expression, type assertion and explicit panic of the package is one
that was audited (193 sites): a new or changed one breaks this. -/
theorem crash_sites_unchanged : Gen.Sites.all = Expected.C09.sites_all := rfl

/-- **routing**: no verb and no path — any runes at all — crashes the router once its rules
were accepted (`variable.index`, `path.search`, `path.match`, the path lexer and its fixed
token array). -/
theorem routing_never_panics (conv) (rs : List (Trie.Rule × Nat × (List Bytes → Option Nat))) (t : Trie.Node)
    (hb : Trie.buildAll Gen.tokenCap rs .empty = .ok t) (path : List Lexer.Rune) (verb : Bytes) :
    ∀ s, Trie.matchPath Gen.tokenCap conv t path verb ≠ .panic s :=
  C01.route_no_panic conv rs t hb path verb

theorem path_lexer_total (input : List Lexer.Rune) (s : String) :
    Lexer.lexPath Gen.tokenCap input ≠ .panic s := C16.lexPath_total input s

/-- **stream codecs**: for any bytes, delivered in any fragmentation, with io.EOF with or
after the last data, the protobuf and JSON readers return (they are total functions: every
iteration consumes input or stops) a length inside the buffer — never a crash. -/
theorem proto_reader_safe (e : Env) (b : Buf) (limit : Nat) :
    ∃ r e', Codec.protoReadNext e b limit = (.ok r, e') ∧ r.n ≤ r.dst.data.length :=
  let ⟨r, e', h1, h2, _⟩ := C17.readNext_safe_proto e b limit
  ⟨r, e', h1, h2⟩

theorem json_reader_safe (e : Env) (b : Buf) (limit : Nat) :
    (Codec.jsonReadNext e b limit).1.n ≤ (Codec.jsonReadNext e b limit).1.dst.data.length :=
  (C17.readNext_safe_json e b limit).1

/-- HTTP receive path on top of them: no receive panics, whatever arrived. -/
theorem http_receive_never_panics (k : Streams.CodecK) (limit spare : Nat) (s : Streams.HS) :
    (Streams.readMsg k limit spare s).1 ≠ .panic := (C06.http_recv_safe k limit spare s).1

/-- **gRPC / gRPC-web frame reader**: any body bytes, any fragmentation, any (or no)
decompressor: a message, the end, or an error — the 5-byte header is never indexed short. -/
theorem grpc_frame_reader_never_panics (gunzip : Option (Bytes → Option Bytes)) (maxRecv : Nat) (e : Env) :
    (Streams.grpcRecv gunzip maxRecv e).1 ≠ .panic := by
  fun_cases Streams.grpcRecv gunzip maxRecv e with
  | case10 _ hdr _ _ hr hne =>  -- the header that was read is not `[flag, a, b, c, d]`
    match hdr, Streams.readExactly_length hr with
    | [flag, a, b, c, d], _ => exact absurd rfl (hne flag a b c d)
  | _ => nofun

/-- **grpc-timeout**: any header bytes give a duration or an error. -/
theorem timeout_never_panics (s : Bytes) (site : String) : C15.decode s ≠ .panic site := by
  unfold C15.decode
  fun_cases Timeout.decodeTimeout <;> nofun

/-- **status tables**: any code — in range or not — maps to an HTTP status. -/
theorem http_status_never_panics (c : Nat) : (C05.httpStatus c).isPanic = false := C05.http_status_total c

end Larking.Props.C09

#print axioms Larking.Props.C09.translator_complete
#print axioms Larking.Props.C09.skeleton_unchanged
#print axioms Larking.Props.C09.crash_sites_unchanged
#print axioms Larking.Props.C09.routing_never_panics
#print axioms Larking.Props.C09.path_lexer_total
#print axioms Larking.Props.C09.proto_reader_safe
#print axioms Larking.Props.C09.json_reader_safe
#print axioms Larking.Props.C09.http_receive_never_panics
#print axioms Larking.Props.C09.grpc_frame_reader_never_panics
#print axioms Larking.Props.C09.timeout_never_panics
#print axioms Larking.Props.C09.http_status_never_panics
