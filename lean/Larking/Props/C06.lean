import Larking.Gen.Skel
import Larking.Gen.Missing
import Larking.Expected.C06
import Larking.Lemmas.Streams
import Larking.Lemmas.Status
/-
  C06 — Stream sequence fidelity.  The theorems are for every reader `Env` (DESIGN §3).
  Unmarshalling, gzip and WebSocket framing are parameters.
-/
namespace Larking.Props.C06
open Larking.Codec Larking.Streams Larking.Status

theorem translator_complete : Gen.missing = [] := by decide

theorem skeleton_unchanged :
    (Gen.Skel.conds_streamHTTP_readMsg,
     Gen.Skel.stmts_streamHTTP_readMsg,
     Gen.Skel.conds_streamHTTP_RecvMsg,
     Gen.Skel.stmts_streamHTTP_RecvMsg,
     Gen.Skel.conds_streamHTTP_decodeRequestArgs,
     Gen.Skel.stmts_streamHTTP_decodeRequestArgs,
     Gen.Skel.conds_streamGRPC_RecvMsg,
     Gen.Skel.stmts_streamGRPC_RecvMsg,
     Gen.Skel.conds_streamGRPC_SendMsg,
     Gen.Skel.stmts_streamGRPC_SendMsg,
     Gen.Skel.conds_webWriter_writeTrailer,
     Gen.Skel.stmts_webWriter_writeTrailer,
     Gen.Skel.conds_webWriter_flushWithTrailer,
     Gen.Skel.stmts_webWriter_flushWithTrailer,
     Gen.Skel.conds_streamWS_RecvMsg,
     Gen.Skel.stmts_streamWS_RecvMsg,
     Gen.Skel.conds_streamWS_SendMsg,
     Gen.Skel.stmts_streamWS_SendMsg,
     Gen.Skel.conds_CodecProto_ReadNext,
     Gen.Skel.stmts_CodecProto_ReadNext,
     Gen.Skel.conds_CodecJSON_ReadNext,
     Gen.Skel.stmts_CodecJSON_ReadNext,
     Gen.Skel.conds_codecHTTPBody_ReadNext,
     Gen.Skel.stmts_codecHTTPBody_ReadNext,
     Gen.Skel.conds_createConnHandler,
     Gen.Skel.stmts_createConnHandler)
  = (Expected.C06.conds_streamHTTP_readMsg,
     Expected.C06.stmts_streamHTTP_readMsg,
     Expected.C06.conds_streamHTTP_RecvMsg,
     Expected.C06.stmts_streamHTTP_RecvMsg,
     Expected.C06.conds_streamHTTP_decodeRequestArgs,
     Expected.C06.stmts_streamHTTP_decodeRequestArgs,
     Expected.C06.conds_streamGRPC_RecvMsg,
     Expected.C06.stmts_streamGRPC_RecvMsg,
     Expected.C06.conds_streamGRPC_SendMsg,
     Expected.C06.stmts_streamGRPC_SendMsg,
     Expected.C06.conds_webWriter_writeTrailer,
     Expected.C06.stmts_webWriter_writeTrailer,
     Expected.C06.conds_webWriter_flushWithTrailer,
     Expected.C06.stmts_webWriter_flushWithTrailer,
     Expected.C06.conds_streamWS_RecvMsg,
     Expected.C06.stmts_streamWS_RecvMsg,
     Expected.C06.conds_streamWS_SendMsg,
     Expected.C06.stmts_streamWS_SendMsg,
     Expected.C06.conds_CodecProto_ReadNext,
     Expected.C06.stmts_CodecProto_ReadNext,
     Expected.C06.conds_CodecJSON_ReadNext,
     Expected.C06.stmts_CodecJSON_ReadNext,
     Expected.C06.conds_codecHTTPBody_ReadNext,
     Expected.C06.stmts_codecHTTPBody_ReadNext,
     Expected.C06.conds_createConnHandler,
     Expected.C06.stmts_createConnHandler) := rfl

/-- HTTP, length-delimited protobuf: exactly the client's messages in order, then a clean end. -/
theorem http_recv_sequence_proto (limit : Nat) (ms : List Bytes) (spares : List Nat) (s : HS)
    (hE : s.rEOF = false) (hall : ∀ m ∈ ms, m.length ≤ limit ∧ m.length ≤ maxInt)
    (hW : s.rbuf ++ s.env.data = (ms.map protoWriteNext).flatten) :
    recvAll .proto limit (ms.length + 1) spares s = ms.map .msg ++ [.eof] :=
  Streams.http_recv_sequence_proto limit ms spares s hE hall hW

/-- HTTP, JSON objects. -/
theorem http_recv_sequence_json (limit : Nat) (hl : 0 < limit) (ms : List Bytes) (spares : List Nat) (s : HS)
    (hE : s.rEOF = false) (hall : ∀ m ∈ ms, m.length ≤ limit ∧ JsonFrame m)
    (hW : s.rbuf ++ s.env.data = (ms.map jsonWriteNext).flatten) :
    recvAll .json limit (ms.length + 1) spares s = ms.map .msg ++ [.eof] := by
  obtain ⟨sp', s', hE', hW', h⟩ := recvAll_frames .json limit _ _ (json_readNextK_frame limit)
    [] 1 ms spares s hE hall (by simpa using hW)
  obtain ⟨dst, e', he, hd⟩ := json_empty s'.env ⟨s'.rbuf, sp'.headD 0⟩ limit hl hW'
  obtain ⟨s'', h'⟩ := (readMsg_err .json limit _ s' hE' (readNextK_json he)).1 rfl hd
  rw [h]; simp only [recvAll, recvMsgHttp, h']; rfl

/-- HttpBody chunks: every call hands over the next bytes of the body, nothing lost or
reordered, at most `limit` at a time, io.EOF only with the final chunk. -/
theorem http_body_chunk (e : Env) (b : Buf) (limit : Nat) :
    let r := bodyReadNext e b limit
    r.1.dst.data ++ r.2.data = b.data ++ e.data ∧ r.1.n ≤ limit ∧ r.1.n ≤ r.1.dst.data.length ∧
    (r.1.err = none → r.1.n = limit) ∧
    (r.1.err ≠ none → r.1.err = some .eof ∧ r.2.data = [] ∧ r.1.n = r.1.dst.data.length) :=
  body_chunk e b limit

/-- once io.EOF was seen every further receive reports the end of the stream; no receive
panics; no message exceeds the limit. -/
theorem http_recv_safe (k : CodecK) (limit spare : Nat) (s : HS) :
    (readMsg k limit spare s).1 ≠ .panic ∧
    (∀ b, (readMsg k limit spare s).1 = .msg b → b.length ≤ limit) ∧
    (s.rEOF = true → (readMsg k limit spare s).1 = .eof) :=
  readMsg_safe k limit spare s

/-- gRPC / gRPC-web frames: exactly the client's messages in order, then a clean end. -/
theorem grpc_recv_sequence (gunzip) (maxRecv : Nat) (ms : List Bytes) (e : Env)
    (hall : ∀ m ∈ ms, m.length ≤ maxRecv ∧ m.length < 4294967296)
    (hW : e.data = (ms.map (frame 0)).flatten) :
    grpcRecvAll gunzip maxRecv (ms.length + 1) e = ms.map .msg ++ [.eof] :=
  grpc_sequence gunzip maxRecv ms e hall hW

/-- a gRPC / gRPC-web body that ends inside a frame (header or payload) yields the preceding
complete messages, in order, followed by an error — never the partial message, never a
clean end. -/
theorem grpc_recv_truncated (gunzip) (maxRecv : Nat) (ms : List Bytes) (e : Env) (flag : UInt8) (m : Bytes) (k : Nat)
    (hk1 : 0 < k) (hk2 : k < (frame flag m).length)
    (hall : ∀ m ∈ ms, m.length ≤ maxRecv ∧ m.length < 4294967296)
    (hW : e.data = (ms.map (frame 0)).flatten ++ (frame flag m).take k)
    (hlim : m.length ≤ maxRecv) (h32 : m.length < 4294967296) :
    ∃ x, grpcRecvAll gunzip maxRecv (ms.length + 1) e = ms.map .msg ++ [.err x] := by
  obtain ⟨e', hd, h⟩ := grpcRecvAll_frames gunzip maxRecv _ 1 ms e hall hW
  obtain ⟨x, e'', h'⟩ := grpc_truncated gunzip maxRecv e' flag m k hk1 hk2 hd hlim h32
  exact ⟨x, by rw [h]; simp only [grpcRecvAll, h']⟩

/-- HTTP, length-delimited protobuf: a body that ends in the middle of a message (inside its
length prefix or inside its bytes) yields the preceding complete messages followed by an
error, for every fragmentation. -/
theorem http_recv_truncated_proto (limit : Nat) (ms : List Bytes) (m : Bytes) (k : Nat) (spares : List Nat) (s : HS)
    (hk1 : 0 < k) (hk2 : k < (protoWriteNext m).length) (hlim : m.length ≤ limit) (hint : m.length ≤ maxInt)
    (hE : s.rEOF = false) (hall : ∀ m ∈ ms, m.length ≤ limit ∧ m.length ≤ maxInt)
    (hW : s.rbuf ++ s.env.data = (ms.map protoWriteNext).flatten ++ (protoWriteNext m).take k) :
    ∃ x, recvAll .proto limit (ms.length + 1) spares s = ms.map .msg ++ [.err x] :=
  Streams.http_recv_truncated_proto limit m k hk1 hk2 hlim hint ms spares s hE hall hW

/-- HTTP, JSON objects: same law. -/
theorem http_recv_truncated_json (limit : Nat) (ms : List Bytes) (m : Bytes) (k : Nat) (spares : List Nat) (s : HS)
    (hm : JsonFrame m) (hk1 : 0 < k) (hk2 : k < m.length)
    (hE : s.rEOF = false) (hall : ∀ m ∈ ms, m.length ≤ limit ∧ JsonFrame m)
    (hW : s.rbuf ++ s.env.data = (ms.map jsonWriteNext).flatten ++ (jsonWriteNext m).take k) :
    ∃ x, recvAll .json limit (ms.length + 1) spares s = ms.map .msg ++ [.err x] :=
  Streams.http_recv_truncated_json limit m k hm hk1 hk2 ms spares s hE hall hW

/-- gRPC, server to client: a peer reading what `SendMsg` wrote for the handler's replies
receives exactly those replies in order, then the end of the data (the trailers carry the
final status). -/
theorem grpc_reply_sequence (maxSend clientMax : Nat) (ms : List Bytes) (e : Env)
    (hall : ∀ m ∈ ms, m.length ≤ maxSend ∧ m.length ≤ clientMax ∧ m.length < 4294967296)
    (hW : e.data = grpcSendAll maxSend ms) :
    grpcRecvAll none clientMax (ms.length + 1) e = ms.map .msg ++ [.eof] :=
  Streams.grpc_reply_sequence maxSend clientMax ms e hall hW

/-- gRPC-web, server to client: the body (reply frames, then the trailer frame with flag 0x80)
splits on the client into exactly the handler's replies in order followed by the trailer
block that carries the final status. -/
theorem web_reply_sequence (maxSend : Nat) (ms : List Bytes) (trailer : Bytes)
    (hall : ∀ m ∈ ms, m.length ≤ maxSend ∧ m.length < 4294967296) (ht : trailer.length < 4294967296) :
    deframe (ms.length + 1) (grpcSendAll maxSend ms ++ frame 128 trailer)
      = some (ms.map (fun m => (0, m)) ++ [(128, trailer)]) :=
  Streams.web_reply_sequence maxSend ms trailer hall ht

/-- HTTP server streams: what `WriteNext` wrote for the handler's replies comes back from the
same stream codec message by message, in order, then a clean end — for every fragmentation. -/
theorem http_reply_sequence_proto (limit : Nat) (ms : List Bytes) (spares : List Nat) (e : Env) (b : Buf)
    (hall : ∀ m ∈ ms, m.length ≤ limit ∧ m.length ≤ maxInt)
    (hW : b.data ++ e.data = (ms.map protoWriteNext).flatten) :
    protoSeq limit (ms.length + 1) spares e b = (ms, some .eof) :=
  proto_sequence limit ms spares e b hall hW

theorem http_reply_sequence_json (limit : Nat) (hl : 0 < limit) (ms : List Bytes) (spares : List Nat) (e : Env) (b : Buf)
    (hall : ∀ m ∈ ms, m.length ≤ limit ∧ JsonFrame m)
    (hW : b.data ++ e.data = (ms.map jsonWriteNext).flatten) :
    jsonSeq limit (ms.length + 1) spares e b = (ms, some .eof) :=
  json_sequence limit hl ms spares e b hall hW

/-- gRPC-web-text: the base64 layer loses nothing however the writes are split (the encoder
is closed after the trailer frame). -/
theorem web_text_lossless (writes : List Bytes) :
    Base64.decode false true (textModeOutput true writes) = some writes.flatten :=
  decode_textModeOutput_closed writes

example : grpcRecvAll none 100 3 ⟨frame 0 [1, 2] ++ frame 0 [], [3, 1, 1], true, []⟩
    = [.msg [1, 2], .msg [], .eof] :=
  grpc_recv_sequence none 100 [[1, 2], []] _ (by decide) (by decide)

-- a stream cut inside its second message: the first message, then an error
example : ∃ x, grpcRecvAll none 100 2 ⟨frame 0 [1, 2] ++ (frame 0 [3, 4, 5]).take 6, [], false, []⟩
    = [.msg [1, 2], .err x] :=
  grpc_recv_truncated none 100 [[1, 2]] _ 0 [3, 4, 5] 6 (by decide) (by decide) (by decide) (by decide)
    (by decide) (by decide)
example : deframe 3 (grpcSendAll 10 [[7], [8, 9]] ++ frame 128 [1]) = some [(0, [7]), (0, [8, 9]), (128, [1])] := by
  decide

end Larking.Props.C06

#print axioms Larking.Props.C06.translator_complete
#print axioms Larking.Props.C06.skeleton_unchanged
#print axioms Larking.Props.C06.http_recv_sequence_proto
#print axioms Larking.Props.C06.http_recv_sequence_json
#print axioms Larking.Props.C06.http_body_chunk
#print axioms Larking.Props.C06.http_recv_safe
#print axioms Larking.Props.C06.grpc_recv_sequence
#print axioms Larking.Props.C06.grpc_recv_truncated
#print axioms Larking.Props.C06.http_recv_truncated_proto
#print axioms Larking.Props.C06.http_recv_truncated_json
#print axioms Larking.Props.C06.grpc_reply_sequence
#print axioms Larking.Props.C06.web_reply_sequence
#print axioms Larking.Props.C06.http_reply_sequence_proto
#print axioms Larking.Props.C06.http_reply_sequence_json
#print axioms Larking.Props.C06.web_text_lossless
