import Larking.Gen.Skel
import Larking.Expected.C05
import Larking.Gen.Dispatch
import Larking.Model.Dispatch
import Larking.Gen.Codes
import Larking.Gen.Missing
import Larking.Lemmas.Status
import Larking.Lemmas.WsClose
/-
  C05 — Status and error fidelity.  `Gen.*` is regenerated from /repo on every run,
  `Spec.*` below is written independently of the source.
-/
namespace Larking.Props.C05
open Larking.Status

/-- the grpc-gateway v1 table (DESIGN §14: larking documents none of its own). -/
def Spec.gatewayTable : List Nat :=
  [200, 408, 500, 400, 504, 404, 409, 403, 429, 400, 409, 400, 501, 500, 503, 500, 401]

/-- Twirp error codes (twirp spec, "Error Codes"), indexed by gRPC code 1..16. -/
def Spec.twirpNames : List String :=
  ["", "canceled", "unknown", "invalid_argument", "deadline_exceeded", "not_found",
   "already_exists", "permission_denied", "resource_exhausted", "failed_precondition",
   "aborted", "out_of_range", "unimplemented", "internal", "unavailable", "dataloss",
   "unauthenticated"]

def httpStatus (c : Nat) : Outcome Nat :=
  lookup Gen.httpGuardOp Gen.httpGuardLen Gen.codeToHTTPStatus Gen.httpDefault c
def wsStatus (c : Nat) : Outcome Nat :=
  lookup Gen.wsGuardOp Gen.wsGuardLen Gen.codeToWSStatus Gen.wsDefault c

theorem translator_complete : Gen.missing = [] := by decide

/-- every status code (any uint32, indeed any natural) maps to the documented HTTP
status: the table for 0..16, 500 otherwise; in particular no code panics. -/
theorem http_status_table (c : Nat) : httpStatus c = .ok (Spec.gatewayTable.getD c 500) := by
  by_cases h : c < 18
  · have : ∀ i : Fin 18, httpStatus i.val = .ok (Spec.gatewayTable.getD i.val 500) := by decide
    exact this ⟨c, h⟩
  · -- beyond both tables: the guard answers the default, which is the specification's 500
    have h18 : 18 ≤ c := Nat.not_lt.mp h
    rw [httpStatus, lookup_large _ Gen.httpGuardLen _ _ _ h18, List.getD_eq_getElem?_getD,
      List.getElem?_eq_none (Nat.le_of_succ_le h18)]
    rfl

theorem http_status_total (c : Nat) : (httpStatus c).isPanic = false := by
  rw [http_status_table]; rfl

/-- WebSocket close codes: never a panic, always a close code a server may send,
and an error status is never reported as a normal closure. -/
def wsGood (c : Nat) : Bool :=
  match wsStatus c with
  | .ok v => [1000, 1001, 1003, 1008, 1011].contains v && (c == 0 || v != 1000)
  | _ => false

theorem ws_status_wellformed (c : Nat) : wsGood c = true := by
  by_cases h : c < 18
  · have : ∀ i : Fin 18, wsGood i.val = true := by decide
    exact this ⟨c, h⟩
  · have hc : wsStatus c = .ok Gen.wsDefault :=
      lookup_large _ _ _ _ _ (Nat.not_lt.mp h)
    have h0 : (c == 0) = false := by simp; omega
    simp only [wsGood, hc, h0]; decide

/-- grpc-message: what the client percent-decodes is exactly the message, for every
byte string. -/
theorem grpc_message_roundtrip (msg : Bytes) :
    decodeGrpcMessage (encodeGrpcMessage Gen.needsEsc msg) = msg := by
  rw [encode_eq_simple]; exact decode_encSimple _ (by decide) msg

/-- … and the header value only contains printable ASCII (a legal HTTP/2 header value). -/
theorem grpc_message_header_safe (msg : Bytes) :
    ∀ b ∈ encodeGrpcMessage Gen.needsEsc msg, 0x20 ≤ b.toNat ∧ b.toNat ≤ 0x7E := by
  rw [encode_eq_simple]
  have hcov : ∀ c, printable c = false → Gen.needsEsc c = true := by
    intro c h
    simp [printable, Gen.needsEsc] at *; omega
  intro b hb
  have := encSimple_printable _ hcov msg b hb
  simpa [printable] using this

/-- Twirp clients get the Twirp name of every error code. -/
theorem twirp_names : ∀ c : Fin 17, c.val ≠ 0 →
    twirpName Gen.twirpNames c.val = Spec.twirpNames.getD c.val "?" := by
  -- after their first entries both tables are the same sixteen names, compared as literals
  have h : Gen.twirpNames.tail.take 16 = Spec.twirpNames.tail := rfl
  rintro ⟨_ | k, hk⟩ h0
  · exact absurd rfl h0
  · have hk : k < 16 := Nat.lt_of_succ_lt_succ hk
    show Gen.twirpNames.tail.getD k "" = Spec.twirpNames.tail.getD k "?"
    rw [← h, List.getD_eq_getElem?_getD, List.getD_eq_getElem?_getD, List.getElem?_take_of_lt hk,
      List.getElem?_eq_getElem (show k < Gen.twirpNames.tail.length from Nat.lt_succ_of_lt hk)]
    rfl

/-- no status value (including the out-of-range code 17 probed by the translator)
makes `encError` fail to answer. -/
theorem twirp_always_answered : ∀ n ∈ Gen.twirpNames, n ≠ "<panic>" := by
  -- entry by entry, as literals
  rw [Gen.twirpNames]; simp only [List.forall_mem_cons]; simp

/-- grpc-web-text: the base64 body decodes to exactly the bytes written (frames and
trailer frame), however the writes were split, provided the encoder is closed. -/
theorem web_text_complete (writes : List Bytes) :
    Base64.decode false true (textModeOutput true writes) = some writes.flatten :=
  decode_textModeOutput_closed writes

/-- status details travel as unpadded std base64 (`grpc-status-details-bin`). -/
theorem details_roundtrip (b : Bytes) :
    Base64.decode false false (Base64.encode false false b) = some b :=
  Base64.decode_encode false false b

/-- the close frame always fits a control frame (125 bytes: 2 for the code, at most 123 of
reason), for every status message. -/
theorem ws_close_frame_fits (code : Nat) (msg : Bytes) :
    (WsClose.body code (WsClose.reason Gen.wsReasonMax Gen.wsReasonRuneSafe msg)).length ≤ 125 ∨
      (msg.length ≤ 123 ∧ (WsClose.body code (WsClose.reason Gen.wsReasonMax Gen.wsReasonRuneSafe msg)).length = msg.length + 2) := by
  rw [WsClose.body_length]
  exact Or.inl (Nat.add_le_add_right (WsClose.reason_length _ _ msg) 2)

/-- the reason is a prefix of the status message ("as far as a close frame can carry it"), and
the whole message when it fits. -/
theorem ws_close_reason_is_prefix (msg : Bytes) :
    (∃ k, WsClose.reason Gen.wsReasonMax Gen.wsReasonRuneSafe msg = msg.take k) ∧
    (msg.length ≤ 123 → WsClose.reason Gen.wsReasonMax Gen.wsReasonRuneSafe msg = msg) :=
  ⟨⟨_, List.prefix_iff_eq_take.mp (WsClose.reason_prefix _ _ msg)⟩, fun h => WsClose.reason_short h _⟩

/-- contrast (the code before fix ed7f237: the cut falls wherever byte 123 is): a message of
two-byte runes is cut inside a rune — the reason ends with a lead byte; moved to the rune
boundary it ends with a whole rune. -/
theorem cut_inside_a_rune_without_the_fix :
    (WsClose.reason 3 false [0xc3, 0xa9, 0xc3, 0xa9]).getLast? = some 0xc3 ∧
    WsClose.reason 3 true [0xc3, 0xa9, 0xc3, 0xa9] = [0xc3, 0xa9] ∧
    WsClose.reason 4 true [0xe6, 0x97, 0xa5, 0xe6, 0x97, 0xa5] = [0xe6, 0x97, 0xa5] := by decide

example : httpStatus 5 = .ok 404 := by decide
example : httpStatus 17 = .ok 500 := by decide
example : encodeGrpcMessage Gen.needsEsc [0x35, 0x30, 0x25, 0x20, 0xc3, 0xa8, 0x73]
    = [0x35, 0x30, 0x25, 0x32, 0x35, 0x20, 0x25, 0x63, 0x33, 0x25, 0x61, 0x38, 0x73] := by decide
example : textModeOutput true [[1, 2], [3, 4]] = [65, 81, 73, 68, 66, 65, 61, 61] := by decide

/-- the functions modelled in `Model/Dispatch` are the ones the model was written against. -/
theorem skeleton_unchanged :
    (Gen.Skel.conds_isWebRequest,
     Gen.Skel.stmts_isWebRequest,
     Gen.Skel.conds_Mux_ServeHTTP,
     Gen.Skel.stmts_Mux_ServeHTTP,
     Gen.Skel.conds_Mux_serveGRPCWeb,
     Gen.Skel.stmts_Mux_serveGRPCWeb)
  = (Expected.C05.conds_isWebRequest,
     Expected.C05.stmts_isWebRequest,
     Expected.C05.conds_Mux_ServeHTTP,
     Expected.C05.stmts_Mux_ServeHTTP,
     Expected.C05.conds_Mux_serveGRPCWeb,
     Expected.C05.stmts_Mux_serveGRPCWeb) := rfl

open Larking.Dispatch

/-- the protocol tests of `Mux.ServeHTTP` as regenerated from the source, in source order. -/
def protoTests : List Larking.Dispatch.Test := ofGen Gen.Dispatch.tests

theorem protocol_tests_as_modelled :
    protoTests = [⟨grpcWeb, false, .web⟩, ⟨grpcB, true, .grpc⟩] := rfl

private theorem hasPrefix_eq (p s : Bytes) : hasPrefix p s = p.isPrefixOf s := by
  fun_induction hasPrefix p s <;> simp [*, List.isPrefixOf]

private theorem dispatch_eq (pm : Nat) (ct : Bytes) :
    dispatch protoTests pm ct =
      if hasPrefix grpcWeb ct then .web else if pm = 2 ∧ hasPrefix grpcB ct then .grpc else .http := by
  rw [protocol_tests_as_modelled]
  simp only [dispatch, Bool.not_false, Bool.true_or, Bool.true_and, Bool.not_true, Bool.false_or,
    Bool.and_eq_true, beq_iff_eq]

/-- **every gRPC-web request reaches the gRPC-web path**, over HTTP/1.1 and over HTTP/2 alike
(its content types also begin with "application/grpc"). -/
theorem web_reaches_web (pm : Nat) (ct : Bytes) (h : hasPrefix grpcWeb ct = true) :
    dispatch protoTests pm ct = .web := by
  rw [dispatch_eq, if_pos h]

/-- a request enters the gRPC path exactly when it is HTTP/2 with an "application/grpc" content
type that is not a gRPC-web one; … -/
theorem grpc_iff (pm : Nat) (ct : Bytes) :
    dispatch protoTests pm ct = .grpc ↔ pm = 2 ∧ hasPrefix grpcB ct = true ∧ hasPrefix grpcWeb ct = false := by
  rw [dispatch_eq]; cases hasPrefix grpcWeb ct <;> simp

/-- … and everything else is transcoded (`serveHTTP`): no request is dropped by the dispatch. -/
theorem otherwise_transcoded (pm : Nat) (ct : Bytes) :
    dispatch protoTests pm ct = .http ↔ hasPrefix grpcWeb ct = false ∧ ¬ (pm = 2 ∧ hasPrefix grpcB ct = true) := by
  rw [dispatch_eq]; cases hasPrefix grpcWeb ct <;> simp

/-- contrast — the test order before fix `13c76b9`: a gRPC-web request over HTTP/2 entered the gRPC path. -/
theorem grpc_test_first_misroutes_web :
    dispatch [⟨grpcB, true, .grpc⟩, ⟨grpcWeb, false, .web⟩] 2 (grpcWeb ++ [43, 112, 114, 111, 116, 111]) = .grpc := by decide

/-- `isWebRequest`: "<type>+<codec>" with type gRPC-web or gRPC-web-text, POST only; without a
codec the codec is "proto" (the codec is everything after the FIRST '+'). -/
theorem web_request_codec (enc : Bytes) :
    isWebRequest (grpcWeb ++ 43 :: enc) postB = some (grpcWeb, enc) ∧
    isWebRequest (grpcWebText ++ 43 :: enc) postB = some (grpcWebText, enc) ∧
    isWebRequest grpcWeb postB = some (grpcWeb, protoB) ∧
    isWebRequest grpcWebText postB = some (grpcWebText, protoB) := by
  have hcut : ∀ (pre : Bytes), (∀ b ∈ pre, b ≠ 43) → cutPlus (pre ++ 43 :: enc) = (pre, some enc) := by
    intro pre
    induction pre with
    | nil => intro _; simp [cutPlus]
    | cons c cs ih =>
      intro h
      have hc : (c == 43) = false := beq_false_of_ne (h c List.mem_cons_self)
      simp [cutPlus, hc, ih (fun b hb => h b (List.mem_cons_of_mem _ hb))]
  have hweb : ∀ ty, grpcWeb <+: ty → (∀ b ∈ ty, b ≠ 43) → (ty == grpcWeb || ty == grpcWebText) = true →
      isWebRequest (ty ++ 43 :: enc) postB = some (ty, enc) := by
    intro ty hpre hplus hty
    have hp : hasPrefix grpcWeb (ty ++ 43 :: enc) = true := by
      rw [hasPrefix_eq]; exact List.isPrefixOf_iff_prefix.mpr (List.prefix_append_of_prefix hpre)
    simp [isWebRequest, hp, hcut ty hplus, hty]
  exact ⟨hweb _ (List.prefix_refl _) (by decide) (by decide), hweb _ (by decide) (by decide) (by decide),
    by decide, by decide⟩

/-- anything but POST is not a gRPC-web request. -/
theorem web_request_post_only (ct method : Bytes) (h : method ≠ postB) : isWebRequest ct method = none := by
  have : (method != postB) = true := bne_iff_ne.mpr h
  simp [isWebRequest, this]

/-- one trailing slash is dropped in front of the router, a missing leading one is supplied. -/
theorem norm_path (s : Bytes) :
    normPath (47 :: s ++ [47]) = 47 :: s ∧
    (∀ c cs, s = c :: cs → c ≠ 47 → normPath s = normPath (47 :: s)) := by
  constructor
  · simp [normPath, hasPrefix]
  · rintro c cs rfl hc
    -- with the slash supplied, both sides strip the same path
    have h1 : hasPrefix [47] (c :: cs) = false := by simpa [hasPrefix] using Ne.symm hc
    have h2 : hasPrefix [47] (47 :: c :: cs) = true := rfl
    rw [normPath, normPath, h1, h2]; rfl

end Larking.Props.C05

#print axioms Larking.Props.C05.translator_complete
#print axioms Larking.Props.C05.http_status_table
#print axioms Larking.Props.C05.http_status_total
#print axioms Larking.Props.C05.ws_status_wellformed
#print axioms Larking.Props.C05.grpc_message_roundtrip
#print axioms Larking.Props.C05.grpc_message_header_safe
#print axioms Larking.Props.C05.twirp_names
#print axioms Larking.Props.C05.twirp_always_answered
#print axioms Larking.Props.C05.web_text_complete
#print axioms Larking.Props.C05.details_roundtrip
#print axioms Larking.Props.C05.ws_close_frame_fits
#print axioms Larking.Props.C05.ws_close_reason_is_prefix
#print axioms Larking.Props.C05.cut_inside_a_rune_without_the_fix
#print axioms Larking.Props.C05.protocol_tests_as_modelled
#print axioms Larking.Props.C05.web_reaches_web
#print axioms Larking.Props.C05.grpc_iff
#print axioms Larking.Props.C05.otherwise_transcoded
#print axioms Larking.Props.C05.grpc_test_first_misroutes_web
#print axioms Larking.Props.C05.web_request_codec
#print axioms Larking.Props.C05.web_request_post_only
#print axioms Larking.Props.C05.norm_path
#print axioms Larking.Props.C05.skeleton_unchanged
