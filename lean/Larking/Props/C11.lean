import Larking.Gen.Skel
import Larking.Gen.Missing
import Larking.Expected.C11
import Larking.Lemmas.Registry
import Larking.Gen.TrieDel
import Larking.Lemmas.TrieDel
import Larking.Lemmas.TrieDelStable
import Larking.Lemmas.TrieUK
import Larking.Lemmas.TrieDelCount
import Larking.Gen.Lexer
/-
  C11 — Dispatch follows the live registration set.  The registry state machine of mux.go /
  handler.go as written (Model/Registry), for every sequence of RegisterService /
  RegisterConn / DropConn calls, every outcome of `path.delRule`'s map iteration (`Chooser`)
  and every value of `rand.Intn`; then `path.delRule` / `path.alive` on the routing trie itself (Model/TrieDel).
-/
namespace Larking.Props.C11
open Larking.Registry

theorem translator_complete : Gen.missing = [] := by decide

theorem skeleton_unchanged :
    (Gen.Skel.conds_state_clone,
     Gen.Skel.stmts_state_clone,
     Gen.Skel.conds_state_appendHandler,
     Gen.Skel.stmts_state_appendHandler,
     Gen.Skel.conds_state_removeHandler,
     Gen.Skel.stmts_state_removeHandler,
     Gen.Skel.conds_state_addConnHandler,
     Gen.Skel.stmts_state_addConnHandler,
     Gen.Skel.conds_state_processFile,
     Gen.Skel.stmts_state_processFile,
     Gen.Skel.conds_state_pickMethodHandler,
     Gen.Skel.stmts_state_pickMethodHandler,
     Gen.Skel.conds_Mux_registerService,
     Gen.Skel.stmts_Mux_registerService,
     Gen.Skel.conds_Mux_RegisterConn,
     Gen.Skel.stmts_Mux_RegisterConn,
     Gen.Skel.conds_Mux_DropConn,
     Gen.Skel.stmts_Mux_DropConn,
     Gen.Skel.conds_path_delRule,
     Gen.Skel.stmts_path_delRule,
     Gen.Skel.conds_path_alive,
     Gen.Skel.stmts_path_alive)
  = (Expected.C11.conds_state_clone,
     Expected.C11.stmts_state_clone,
     Expected.C11.conds_state_appendHandler,
     Expected.C11.stmts_state_appendHandler,
     Expected.C11.conds_state_removeHandler,
     Expected.C11.stmts_state_removeHandler,
     Expected.C11.conds_state_addConnHandler,
     Expected.C11.stmts_state_addConnHandler,
     Expected.C11.conds_state_processFile,
     Expected.C11.stmts_state_processFile,
     Expected.C11.conds_state_pickMethodHandler,
     Expected.C11.stmts_state_pickMethodHandler,
     Expected.C11.conds_Mux_registerService,
     Expected.C11.stmts_Mux_registerService,
     Expected.C11.conds_Mux_RegisterConn,
     Expected.C11.stmts_Mux_RegisterConn,
     Expected.C11.conds_Mux_DropConn,
     Expected.C11.stmts_Mux_DropConn,
     Expected.C11.conds_path_delRule,
     Expected.C11.stmts_path_delRule,
     Expected.C11.conds_path_alive,
     Expected.C11.stmts_path_alive) := rfl

/-- every published state reachable by any call sequence satisfies the registry invariant:
handler identities are unique, a connection entry tracks exactly the handlers that connection
created, every live handler's routes are in the route table. -/
theorem reachable_inv (ch : Chooser) (ops : List Op) : Inv (run ch St.init ops) :=
  run_inv ch ops St.init inv_init

/-- **a request is delivered only to a currently registered backend**: whatever
`pickMethodHandler` returns was created by RegisterService or by a connection that has an
entry tracking that very handler. -/
theorem dispatch_only_live (ch : Chooser) (ops : List Op) (m r : Nat) (h : H)
    (hp : pick (run ch St.init ops) m r = some h) :
    h ∈ (run ch St.init ops).handlers m ∧
    ∀ c, h.owner = some c → ∃ cl, (run ch St.init ops).conns c = some cl ∧ h ∈ cl.handlers :=
  ⟨pick_mem hp, fun _ => (reachable_inv ch ops).tracked (pick_mem hp)⟩

/-- **a dropped connection never receives another request** — until it is registered
again: after `DropConn(c)` and any further calls other than `RegisterConn(c)`, no handler
that `c` created can be picked, for any method and any random draw. -/
theorem dropped_never_served (ch : Chooser) (ops ops' : List Op) (c : Nat)
    (hops : ∀ op ∈ ops', ∀ hash mss, op ≠ .regConn c hash mss) (m r : Nat) (h : H)
    (hp : pick (run ch St.init (ops ++ .dropConn c :: ops')) m r = some h) : h.owner ≠ some c := by
  -- the entry is absent after the drop and stays absent
  have hc : (run ch St.init (ops ++ .dropConn c :: ops')).conns c = none := by
    simp only [run, List.foldl_append, List.foldl_cons]
    exact List.foldlRecOn (motive := fun s => s.conns c = none) ops' _ (dropConn_conns ch _ c)
      fun s hs op hop => step_conns_none ch s op c hs (hops op hop)
  intro ho
  obtain ⟨cl, hcl, _⟩ := (dispatch_only_live ch _ m r h hp).2 c ho
  rw [hc] at hcl; cases hcl

/-- **a method with a live backend is never reported unimplemented or not found**: every
random draw yields one of its handlers, and every route any of them registered leads to it. -/
theorem live_never_unimplemented (ch : Chooser) (ops : List Op) (m : Nat)
    (hl : (run ch St.init ops).handlers m ≠ []) :
    (∀ r, ∃ h, pick (run ch St.init ops) m r = some h) ∧
    ∀ h ∈ (run ch St.init ops).handlers m, ∀ k ∈ h.keys, routeOf (run ch St.init ops).routes k = some m := by
  refine ⟨fun r => ?_, fun h hin k => (reachable_inv ch ops).routed m h k hin⟩
  have hpos := List.length_pos_iff.mpr hl
  simp only [pick, gt_iff_lt, hpos, ↓reduceIte]
  exact ⟨_, List.getElem?_eq_getElem (Nat.mod_lt _ hpos)⟩

/-- a connection's entry means its handlers are live: registered backends are reachable. -/
theorem registered_backend_live (ch : Chooser) (ops : List Op) (c : Nat) (cl : Conn)
    (hc : (run ch St.init ops).conns c = some cl) :
    ∀ h ∈ cl.handlers, h ∈ (run ch St.init ops).handlers h.method :=
  (reachable_inv ch ops).trackedLive c cl hc

/-- a method with no backend is answered Unimplemented. -/
theorem none_unimplemented (s : St) (m r : Nat) (h : s.handlers m = []) : pick s m r = none := by
  simp [pick, h]

/-- **DropConn removes exactly the dropped connection's handlers**; every other backend of
every method stays, in order.  Dropping an unknown connection returns false and changes nothing. -/
theorem drop_exact (ch : Chooser) (ops : List Op) (c m : Nat) :
    (step ch (run ch St.init ops) (.dropConn c)).1.handlers m
      = ((run ch St.init ops).handlers m).filter (fun h => h.owner ≠ some c) := by
  rw [step_dropConn]
  exact (removeHandler_spec ch _ c (reachable_inv ch ops)).2 m

theorem drop_unknown (ch : Chooser) (s : St) (c : Nat) (hc : s.conns c = none) :
    step ch s (.dropConn c) = (s, .dropped false) := by
  simp [step, removeHandler, hc]

/-- **registering a (second) backend is safe**: a successful RegisterConn of a connection
without an entry appends one handler per advertised method and leaves every existing
handler of every method in place. -/
theorem second_backend_safe (ch : Chooser) (ops : List Op) (c hash : Nat) (mss : List MSpec) (s' : St)
    (hc : (run ch St.init ops).conns c = none)
    (ha : addConnHandler ch (run ch St.init ops) c hash mss = some s') :
    ∃ hs : List H, (∀ h ∈ hs, h.owner = some c) ∧ hs.map (·.method) = mss.map (·.method) ∧
      ∀ m, s'.handlers m = (run ch St.init ops).handlers m ++ hs.filter (fun h => h.method = m) := by
  have hi := reachable_inv ch ops
  rcases (addConnHandler_spec hi ha).2 with ⟨cl, hcl, _⟩ | ⟨hs, _, ho, hmap, hh⟩
  · rw [hc] at hcl; cases hcl
  · exact ⟨hs, ho, hmap, fun m => by rw [hh m, no_owner_of_unregistered hi hc m]⟩

/-- re-registering an unchanged connection changes nothing. -/
theorem reregister_unchanged (ch : Chooser) (s : St) (c hash : Nat) (mss : List MSpec) (cl : Conn)
    (hc : s.conns c = some cl) (hh : cl.hash = hash) :
    step ch s (.regConn c hash mss) = (s, .ok) := by
  simp [step, addConnHandler, hc, hh]

/-- a changed connection is replaced: its old handlers go, the new ones are appended. -/
theorem reregister_changed (ch : Chooser) (ops : List Op) (c hash : Nat) (mss : List MSpec) (s' : St) (cl : Conn)
    (hc : (run ch St.init ops).conns c = some cl) (hne : cl.hash ≠ hash)
    (ha : addConnHandler ch (run ch St.init ops) c hash mss = some s') :
    ∃ hs : List H, s'.conns c = some ⟨hs, hash⟩ ∧ hs.map (·.method) = mss.map (·.method) ∧
      ∀ m, s'.handlers m = ((run ch St.init ops).handlers m).filter (fun h => h.owner ≠ some c)
                            ++ hs.filter (fun h => h.method = m) := by
  rcases (addConnHandler_spec (reachable_inv ch ops) ha).2 with ⟨cl', hcl, he, _⟩ | ⟨hs, h1, _, hmap, hh⟩
  · cases hc.symm.trans hcl; exact absurd he hne
  · exact ⟨hs, h1, hmap, hh⟩

/-- a failed call publishes nothing. -/
theorem failed_changes_nothing (ch : Chooser) (s : St) (op : Op) (h : (step ch s op).2 = .err) :
    (step ch s op).1 = s := by
  revert h
  fun_cases step ch s op with
  | case1 | case3 => exact fun _ => rfl  -- a refused registration hands back `s`
  | case2 | case4 | case5 | case6 => nofun  -- the other answers are not `.err`

-- two connections serve method 7 (keys 70, 71); conn 1 is dropped
def ex : List Op := [.regConn 1 10 [⟨7, [70, 71]⟩], .regConn 2 20 [⟨7, [70, 71]⟩, ⟨8, [80]⟩], .dropConn 1]
example : ((run firstOf St.init ex).handlers 7).map (·.owner) = [some 2] := by decide
example : ((run firstOf St.init (ex ++ [.dropConn 2])).handlers 7) = [] := by decide
example : routeOf (run firstOf St.init ex).routes 71 = some 7 := by decide
-- a conflicting registration (key 70, method 7's, for method 9) fails
example : (step firstOf (run firstOf St.init ex) (.regService [⟨9, [90, 70]⟩])).2 = .err := by decide

/-! ### `delRule` on the routing trie itself (`Model/TrieDel`): the route table above abstracts
it; these are the trie-level facts the abstraction relies on. -/
open Larking.Trie Larking.Lexer

/-- `path.alive` counts every field of a node in which a binding can sit (regenerated from the
source): a node at or below which anything is bound is never pruned. -/
theorem alive_counts_every_binding_site : AliveSound Gen.aliveCounts := by
  unfold AliveSound; decide

/-- **`delRule` never touches another method's routes**: whatever is bound for a method other
than `name` — at any depth, under a verb or under kind `*` (the implicit `/Service/Method`
route) — is bound at the same place afterwards, whichever rule of `name` the walk over Go's
maps finds first. A live method therefore keeps all its routes across any `DropConn`. -/
theorem delRule_keeps_other_methods (name : Nat) (n n' : Node)
    (h : delRule Gen.aliveCounts name n = some n') (ks : List KEdge) (vk : Option Bytes) (m : Meth)
    (hne : m.mid ≠ name) (hst : StoredK n ks vk m) : StoredK n' ks vk m :=
  delRule_keeps alive_counts_every_binding_site h hne hst

/-- … it invents nothing: every binding afterwards was there before … -/
theorem delRule_invents_nothing (name : Nat) (n n' : Node)
    (h : delRule Gen.aliveCounts name n = some n') (ks : List KEdge) (vk : Option Bytes) (m : Meth)
    (hb : BoundIn n' ks vk m) : BoundIn n ks vk m :=
  delRule_only_removes h hb

/-- … and it answers false only when no verb route of the method is left anywhere in the trie. -/
theorem delRule_false_means_gone (name : Nat) (n : Node) (h : delRule Gen.aliveCounts name n = none)
    (ks : List KEdge) (verb : Bytes) (m : Meth) (hb : BoundIn n ks (some verb) m) : m.mid ≠ name :=
  delRule_none h hb

/-- **`delRule` removes exactly one verb binding of the method per successful call** — the pruning
of dead nodes removes none — **and reports false exactly when none is left**: `removeHandler`'s
loop `for s.path.delRule(name) {}` ends after as many calls as the method has verb bindings, and
then no verb route of a dropped method is left anywhere in the trie. -/
theorem delRule_removes_exactly_one (name : Nat) (n n' : Node)
    (h : delRule Gen.aliveCounts name n = some n') : countN name n' + 1 = countN name n :=
  delRule_count alive_counts_every_binding_site h

theorem delRule_loop_ends_clean (name fuel : Nat) (n : Node) (hf : countN name n ≤ fuel) :
    delRule Gen.aliveCounts name (delAll Gen.aliveCounts name fuel n) = none ∧
    countN name (delAll Gen.aliveCounts name fuel n) = 0 :=
  delAll_complete alive_counts_every_binding_site hf

open Larking.Trie in
/-- not vacuous: method 1 holds two verb bindings (`GET /p/x`, `POST /p`), two calls remove them,
the third reports false. -/
example :
    let mA : Trie.Meth := ⟨1, [], 0⟩
    let mB : Trie.Meth := ⟨2, [], 1⟩
    let x : Trie.Node := .mk [] [([71, 69, 84], mA)] none []
    let pn : Trie.Node := .mk [([47, 120], x)] [([71, 69, 84], mB), ([80, 79, 83, 84], mA)] none []
    let root : Trie.Node := .mk [([47, 112], pn)] [] none []
    countN 1 root = 2 ∧ countN 1 (delAll Gen.aliveCounts 1 1 root) = 1 ∧
    delRule Gen.aliveCounts 1 (delAll Gen.aliveCounts 1 2 root) = none := by
  exact ⟨by rfl, by rfl, by rfl⟩

/-- **Dispatch is stable across `DropConn`**: a request the router dispatches to a method other
than the one whose rules are being removed is dispatched to the SAME method with the SAME
captures after `delRule` ran for `name` any number of times — no other branch of the trie takes
the request over, no pruning loses it.  `UK`: the association lists stand for Go maps (one entry
per key); `hconv`: every capture converts (without it the code's variable loop, which a failed
conversion ends, goes on to the next variable once the failing binding is gone). -/
theorem dispatch_stable_across_deletions (conv : Nat → Bytes → Bool) (hconv : ∀ f t, conv f t = true)
    (verb : Bytes) (name fuel : Nat) (t : Node) (huk : UK t) (toks : List Tok) (m : Meth) (caps : Caps)
    (h : search conv verb t toks = .found m caps) (hne : m.mid ≠ name) :
    search conv verb (delAll Gen.aliveCounts name fuel t) toks = .found m caps :=
  (h ▸ delAll_stable alive_counts_every_binding_site hconv verb name fuel huk toks :) hne

/-- … for every trie the registration functions build the key hypothesis is a theorem
(`buildAll_UK`: the segment maps are strictly sorted association lists, which the sorted
insert-or-replace preserves): **after any accepted registrations and any number of deletions, a
request that went to a surviving method goes to the same method with the same captures.** -/
theorem dispatch_stable_across_drop (conv : Nat → Bytes → Bool) (hconv : ∀ f t, conv f t = true)
    (rs : List (Rule × Nat × (List Bytes → Option Nat))) (t : Node)
    (hb : buildAll Gen.tokenCap rs .empty = .ok t)
    (verb : Bytes) (name fuel : Nat) (toks : List Tok) (m : Meth) (caps : Caps)
    (h : search conv verb t toks = .found m caps) (hne : m.mid ≠ name) :
    search conv verb (delAll Gen.aliveCounts name fuel t) toks = .found m caps :=
  dispatch_stable_across_deletions conv hconv verb name fuel t (buildAll_UK Gen.tokenCap rs t hb) toks m caps h hne

/-- … and a deletion creates no route: what was answered NotFound / MethodNotAllowed still is. -/
theorem deletions_create_no_route (conv : Nat → Bytes → Bool) (hconv : ∀ f t, conv f t = true)
    (verb : Bytes) (name fuel : Nat) (t : Node) (huk : UK t) (toks : List Tok) (e : SErr)
    (h : search conv verb t toks = .fail e) :
    ∃ e', search conv verb (delAll Gen.aliveCounts name fuel t) toks = .fail e' :=
  (h ▸ delAll_stable alive_counts_every_binding_site hconv verb name fuel huk toks :)

open Larking.Trie in
/-- the hypotheses are met: a trie with `GET /p/x` of method 1 and `GET /p` of method 2 has unique
keys, and deleting method 1 leaves `GET /p` → method 2 where it was. -/
example :
    let mA : Trie.Meth := ⟨1, [], 0⟩
    let mB : Trie.Meth := ⟨2, [], 1⟩
    let x : Trie.Node := .mk [] [([71, 69, 84], mA)] none []
    let pn : Trie.Node := .mk [([47, 120], x)] [([71, 69, 84], mB)] none []
    let root : Trie.Node := .mk [([47, 112], pn)] [] none []
    UK root ∧ delAll Gen.aliveCounts 1 3 root = .mk [([47, 112], .mk [] [([71, 69, 84], mB)] none [])] [] none [] := by
  refine ⟨by simp [UK, UKSegs, UKVars, lookupSeg], by rfl⟩

/-- why `hconv` is there — the code's variable loop ENDS at a capture that does not convert
(`GET /x` against `/{a}` of method 1 with an int field: refused), and once method 1 is gone the
loop reaches `/{b}` of method 2: the same request is dispatched.  Both are within the property
(the refused request matched no rule with convertible captures), but "what found nothing finds
nothing" is false without the side condition. -/
theorem unconvertible_capture_shadows_until_deleted :
    let mA : Meth := ⟨1, [some 0], 0⟩
    let mB : Meth := ⟨2, [some 1], 1⟩
    let vA : Var := ⟨[97], [⟨.star, [42]⟩]⟩
    let vB : Var := ⟨[98], [⟨.star, [42]⟩]⟩
    let root : Node := .mk [] [] none
      [(vA, .mk [] [([71, 69, 84], mA)] none []), (vB, .mk [] [([71, 69, 84], mB)] none [])]
    let req : List Tok := [⟨.slash, [47]⟩, ⟨.path, [120]⟩, ⟨.eof, []⟩]
    let conv : Nat → Bytes → Bool := fun f _ => f != 0
    search conv [71, 69, 84] root req = .fail .conv ∧
    search conv [71, 69, 84] (delAll Gen.aliveCounts 1 3 root) req = .found mB [(some 1, [120])] := by
  exact ⟨by rfl, by rfl⟩

/-- contrast — the code before fix `9c3d92b` (`alive` did not count `methodAll`): removing method
1's `GET /p/x` prunes `/p`, which holds method 2's kind-`*` binding, and that route is lost. -/
theorem alive_without_all_loses_route :
    let mA : Trie.Meth := ⟨1, [], 0⟩
    let mB : Trie.Meth := ⟨2, [], 1⟩
    let x : Trie.Node := .mk [] [([71, 69, 84], mA)] none []
    let pn : Trie.Node := .mk [([47, 120], x)] [] (some mB) []
    let root : Trie.Node := .mk [([47, 112], pn)] [] none []
    Trie.StoredK root [.seg [47, 112]] none mB ∧
    (∃ n', Trie.delRule ["methods", "variables", "segments"] 1 root = some n' ∧
      ¬ Trie.StoredK n' [.seg [47, 112]] none mB) ∧
    (∃ n', Trie.delRule Gen.aliveCounts 1 root = some n' ∧ Trie.StoredK n' [.seg [47, 112]] none mB) :=
  ⟨⟨_, rfl, rfl⟩,
   ⟨.mk [] [] none [], rfl, by rintro ⟨_, hl, _⟩; exact nomatch hl⟩,
   ⟨_, rfl, _, rfl, rfl⟩⟩

end Larking.Props.C11

#print axioms Larking.Props.C11.translator_complete
#print axioms Larking.Props.C11.skeleton_unchanged
#print axioms Larking.Props.C11.reachable_inv
#print axioms Larking.Props.C11.dispatch_only_live
#print axioms Larking.Props.C11.dropped_never_served
#print axioms Larking.Props.C11.live_never_unimplemented
#print axioms Larking.Props.C11.registered_backend_live
#print axioms Larking.Props.C11.none_unimplemented
#print axioms Larking.Props.C11.drop_exact
#print axioms Larking.Props.C11.drop_unknown
#print axioms Larking.Props.C11.second_backend_safe
#print axioms Larking.Props.C11.reregister_unchanged
#print axioms Larking.Props.C11.reregister_changed
#print axioms Larking.Props.C11.failed_changes_nothing
#print axioms Larking.Props.C11.alive_counts_every_binding_site
#print axioms Larking.Props.C11.delRule_keeps_other_methods
#print axioms Larking.Props.C11.delRule_invents_nothing
#print axioms Larking.Props.C11.delRule_false_means_gone
#print axioms Larking.Props.C11.delRule_removes_exactly_one
#print axioms Larking.Props.C11.delRule_loop_ends_clean
#print axioms Larking.Props.C11.dispatch_stable_across_deletions
#print axioms Larking.Props.C11.dispatch_stable_across_drop
#print axioms Larking.Props.C11.deletions_create_no_route
#print axioms Larking.Props.C11.unconvertible_capture_shadows_until_deleted
#print axioms Larking.Props.C11.alive_without_all_loses_route
