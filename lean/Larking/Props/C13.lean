import Larking.Gen.Skel
import Larking.Gen.Pool
import Larking.Gen.Missing
import Larking.Expected.C13
import Larking.Lemmas.Pool
import Larking.Lemmas.Lifecycle
/-
  C13 — Concurrent requests are isolated.  What each function does with its pooled objects along every
  execution path is enumerated from the AST on every run (`Gen.Pool.all`) and the discipline is decided by
  the kernel; the isolation theorem is for all disciplined programs, every interleaving and every pick of
  the pool.
-/
namespace Larking.Props.C13
open Larking.Pool

theorem translator_complete : Gen.missing = [] := by decide

theorem skeleton_unchanged :
    (Gen.Skel.conds_streamGRPC_RecvMsg,
     Gen.Skel.stmts_streamGRPC_RecvMsg,
     Gen.Skel.conds_streamGRPC_SendMsg,
     Gen.Skel.stmts_streamGRPC_SendMsg,
     Gen.Skel.conds_streamHTTP_readMsg,
     Gen.Skel.stmts_streamHTTP_readMsg,
     Gen.Skel.conds_streamHTTP_decodeRequestArgs,
     Gen.Skel.stmts_streamHTTP_decodeRequestArgs,
     Gen.Skel.conds_streamHTTP_SendMsg,
     Gen.Skel.stmts_streamHTTP_SendMsg,
     Gen.Skel.conds_gzipReader_Read,
     Gen.Skel.stmts_gzipReader_Read,
     Gen.Skel.conds_gzipWriter_Close,
     Gen.Skel.stmts_gzipWriter_Close,
     Gen.Skel.conds_CompressorGzip_Compress,
     Gen.Skel.stmts_CompressorGzip_Compress,
     Gen.Skel.conds_CompressorGzip_Decompress,
     Gen.Skel.stmts_CompressorGzip_Decompress,
     Gen.Skel.conds_streamGRPC_compress,
     Gen.Skel.stmts_streamGRPC_compress,
     Gen.Skel.conds_streamGRPC_decompress,
     Gen.Skel.stmts_streamGRPC_decompress,
     Gen.Skel.conds_createConnHandler,
     Gen.Skel.stmts_createConnHandler,
     Gen.Skel.conds_streamGRPC_begin,
     Gen.Skel.stmts_streamGRPC_begin,
     Gen.Skel.conds_streamGRPC_close,
     Gen.Skel.stmts_streamGRPC_close,
     Gen.Skel.conds_streamGRPC_SendHeader,
     Gen.Skel.stmts_streamGRPC_SendHeader,
     Gen.Skel.conds_streamGRPC_isDone,
     Gen.Skel.stmts_streamGRPC_isDone,
     Gen.Skel.conds_Mux_serveGRPC,
     Gen.Skel.stmts_Mux_serveGRPC,
     Gen.Skel.conds_webWriter_writeTrailer,
     Gen.Skel.stmts_webWriter_writeTrailer)
  = (Expected.C13.conds_streamGRPC_RecvMsg,
     Expected.C13.stmts_streamGRPC_RecvMsg,
     Expected.C13.conds_streamGRPC_SendMsg,
     Expected.C13.stmts_streamGRPC_SendMsg,
     Expected.C13.conds_streamHTTP_readMsg,
     Expected.C13.stmts_streamHTTP_readMsg,
     Expected.C13.conds_streamHTTP_decodeRequestArgs,
     Expected.C13.stmts_streamHTTP_decodeRequestArgs,
     Expected.C13.conds_streamHTTP_SendMsg,
     Expected.C13.stmts_streamHTTP_SendMsg,
     Expected.C13.conds_gzipReader_Read,
     Expected.C13.stmts_gzipReader_Read,
     Expected.C13.conds_gzipWriter_Close,
     Expected.C13.stmts_gzipWriter_Close,
     Expected.C13.conds_CompressorGzip_Compress,
     Expected.C13.stmts_CompressorGzip_Compress,
     Expected.C13.conds_CompressorGzip_Decompress,
     Expected.C13.stmts_CompressorGzip_Decompress,
     Expected.C13.conds_streamGRPC_compress,
     Expected.C13.stmts_streamGRPC_compress,
     Expected.C13.conds_streamGRPC_decompress,
     Expected.C13.stmts_streamGRPC_decompress,
     Expected.C13.conds_createConnHandler,
     Expected.C13.stmts_createConnHandler,
     Expected.C13.conds_streamGRPC_begin,
     Expected.C13.stmts_streamGRPC_begin,
     Expected.C13.conds_streamGRPC_close,
     Expected.C13.stmts_streamGRPC_close,
     Expected.C13.conds_streamGRPC_SendHeader,
     Expected.C13.stmts_streamGRPC_SendHeader,
     Expected.C13.conds_streamGRPC_isDone,
     Expected.C13.stmts_streamGRPC_isDone,
     Expected.C13.conds_Mux_serveGRPC,
     Expected.C13.stmts_Mux_serveGRPC,
     Expected.C13.conds_webWriter_writeTrailer,
     Expected.C13.stmts_webWriter_writeTrailer) := rfl

def zero : Nat → Nat := fun _ => 0

/-- **every path of every function that touches a pool is disciplined**: the object is
reset before its content is used, used only between Get and the single Put (or abandoned),
never Put twice, never referenced from a longer-lived place when it is Put — and every
path ends holding nothing. -/
theorem all_paths_disciplined :
    ∀ f ∈ Gen.Pool.all, ∀ p ∈ f.2, disc p zero = true ∧ final p zero 0 = 0 ∧ final p zero 1 = 0 := by decide

theorem functions_covered : Gen.Pool.all.map (·.1) =
    ["streamGRPC.SendMsg", "streamGRPC.RecvMsg", "streamHTTP.SendMsg", "streamHTTP.decodeRequestArgs",
     "streamHTTP.readMsg"] := rfl

/-- the proxy handler reads the pump's `inErr` only after `wg.Wait()`. -/
theorem proxy_fence : Gen.Pool.proxyFence = ["go", "wait", "inErr"] := rfl

/-- **isolation**: let every request run any sequence of disciplined paths, let the requests
interleave in any order and let the pool hand out any free object at every Get: every use of
a pooled object by a request sees exactly what that same request last wrote into it — never
another request's bytes. -/
theorem isolation (seqs : Nat → List (List Ev))
    (hd : ∀ i, ∀ p ∈ seqs i, disc p zero = true ∧ final p zero = zero)
    (sched : List (Nat × Nat)) (i : Nat) :
    ∀ r ∈ (run (Sys.init fun j => (seqs j).flatten) sched).log i, r.2 = some r.1 :=
  (run_inv sched _ (inv_init _ (fun j => disc_flatten (seqs j) zero (hd j)))).reads i

/-- exclusive ownership at every moment: no pooled object is held by two requests, and a
held object is not in the pool. -/
theorem exclusive_ownership (seqs : Nat → List (List Ev))
    (hd : ∀ i, ∀ p ∈ seqs i, disc p zero = true ∧ final p zero = zero)
    (sched : List (Nat × Nat)) :
    let s := run (Sys.init fun j => (seqs j).flatten) sched
    (∀ i k j k' o, s.slot i k = some o → s.slot j k' = some o → i = j ∧ k = k') ∧
    (∀ i k o, s.slot i k = some o → s.free o = false) := by
  have h := run_inv sched _ (inv_init _ (fun j => disc_flatten (seqs j) zero (hd j)))
  exact ⟨h.excl, fun i k o hs => (h.alloc i k o hs).2⟩

/-- the pooled gzip reader: whatever Reads follow — any number of them after io.EOF — it is
used only while held and goes back to the pool at most once. -/
theorem gzip_reader_returned_once (eofs : List Bool) :
    disc (.get 0 :: .write 0 0 :: gzReads true eofs) zero = true := by
  -- "at most once" is in `disc`: a `put` leaves the slot in state 0, and a second one asks for a state ≠ 0
  have h := gz_disciplined eofs (Registry.put (Registry.put zero 0 1) 0 2) (by simp [Registry.put])
  simp only [disc, h, Bool.and_true]
  simp [zero, Registry.put]

/-- contrast (seeded): Put on the error path plus a deferred Put is rejected … -/
theorem double_put_rejected : disc [.get 0, .write 0 0, .read 0, .put 0, .put 0] zero = false := by decide
/-- … and an object that is in the pool while still referenced really is shared: request 0
reads request 1's bytes. -/
theorem early_put_leaks :
    let progs : Nat → List Ev := fun i =>
      if i = 0 then [.get 0, .write 0 7, .putKeep 0, .read 0] else [.get 0, .write 0 9]
    ((run (Sys.init progs) [(0, 0), (0, 0), (0, 0), (1, 0), (1, 0), (0, 0)]).log 0) = [(9, some 7)] := by decide
/-- contrast (seeded): keeping an alias of the pooled buffer across the Put. -/
theorem alias_after_put_rejected : disc [.get 0, .write 0 0, .read 0, .putKeep 0] zero = false := by decide

/-- **No stream call outlives the RPC.** For every interleaving of stream calls beginning and
returning (from the handler's goroutine or from goroutines it left behind, e.g. the
RegisterConn forwarder's upload pump when the backend fails first) with the two halves of
`close()`: once `close()` has returned — `serveGRPC` is about to give the ResponseWriter
and the request body back — no call is in flight, and it stays so. -/
theorem no_stream_call_after_close (steps more : List Lifecycle.Step) :
    let s := Lifecycle.run true steps Lifecycle.init
    s.waited = true → (Lifecycle.run true more s).count = 0 ∧ (Lifecycle.run true more s).waited = true := by
  intro s hw
  have hinv : Lifecycle.Inv (Lifecycle.run true more s) :=
    Lifecycle.run_inv more s (Lifecycle.run_inv steps Lifecycle.init Lifecycle.inv_init)
  have hw' : (Lifecycle.run true more s).waited = true := Lifecycle.run_waited_stays true more s hw
  exact ⟨(hinv hw').2, hw'⟩

/-- contrast (the code before the repair, a bare `wg.Add(1)`): a call can begin after `Wait`
has returned — the WaitGroup misuse the race detector reported. -/
theorem bare_add_can_follow_wait :
    (Lifecycle.run false [.mark, .wait, .begin] Lifecycle.init).waited = true ∧
    (Lifecycle.run false [.mark, .wait, .begin] Lifecycle.init).count = 1 := by decide

example : Lifecycle.run true [.begin, .mark, .begin, .wait, .done, .wait, .begin] Lifecycle.init
    = ⟨true, 0, true, 2⟩ := by decide

end Larking.Props.C13

#print axioms Larking.Props.C13.translator_complete
#print axioms Larking.Props.C13.skeleton_unchanged
#print axioms Larking.Props.C13.all_paths_disciplined
#print axioms Larking.Props.C13.functions_covered
#print axioms Larking.Props.C13.proxy_fence
#print axioms Larking.Props.C13.isolation
#print axioms Larking.Props.C13.exclusive_ownership
#print axioms Larking.Props.C13.gzip_reader_returned_once
#print axioms Larking.Props.C13.double_put_rejected
#print axioms Larking.Props.C13.early_put_leaks
#print axioms Larking.Props.C13.alias_after_put_rejected
#print axioms Larking.Props.C13.no_stream_call_after_close
#print axioms Larking.Props.C13.bare_add_can_follow_wait
