import Larking.Gen.Skel
import Larking.Gen.Params
import Larking.Gen.Missing
import Larking.Expected.C07
import Larking.Lemmas.Param
/-
  C07 — Path-bound fields are authoritative.  `Gen.pathParamsLast` is read off the AST of
  `Mux.serveHTTP` on every run (`params = append(queryParams, params...)`); the skeletons tie
  "body first, parameters on the first message only, params.set in slice order".
-/
namespace Larking.Props.C07
open Larking.Param

theorem translator_complete : Gen.missing = [] := by decide

theorem skeleton_unchanged :
    (Gen.Skel.conds_Mux_serveHTTP,
     Gen.Skel.stmts_Mux_serveHTTP,
     Gen.Skel.conds_params_set,
     Gen.Skel.stmts_params_set,
     Gen.Skel.conds_streamHTTP_RecvMsg,
     Gen.Skel.stmts_streamHTTP_RecvMsg,
     Gen.Skel.conds_Mux_match,
     Gen.Skel.stmts_Mux_match,
     Gen.Skel.conds_method_parseQueryParams,
     Gen.Skel.stmts_method_parseQueryParams,
     Gen.Skel.conds_streamWS_RecvMsg,
     Gen.Skel.stmts_streamWS_RecvMsg)
  = (Expected.C07.conds_Mux_serveHTTP,
     Expected.C07.stmts_Mux_serveHTTP,
     Expected.C07.conds_params_set,
     Expected.C07.stmts_params_set,
     Expected.C07.conds_streamHTTP_RecvMsg,
     Expected.C07.stmts_streamHTTP_RecvMsg,
     Expected.C07.conds_Mux_match,
     Expected.C07.stmts_Mux_match,
     Expected.C07.conds_method_parseQueryParams,
     Expected.C07.stmts_method_parseQueryParams,
     Expected.C07.conds_streamWS_RecvMsg,
     Expected.C07.stmts_streamWS_RecvMsg) := rfl

/-- **the path capture wins**: for every body content, every list of query parameters (any
number of them naming the same field, anywhere) and every list of path captures, a singular
field bound by a path variable ends up holding the captured value (the last capture for
that field, should a template bind it twice). -/
theorem path_wins (body : Msg) (query pre post : List P) (p : P) (hs : p.repeated = false)
    (hpost : ∀ q ∈ post, q.fp ≠ p.fp) :
    (decodeRequest Gen.pathParamsLast body query (pre ++ p :: post)).get p.fp = [p.val] := by
  simp only [decodeRequest, Gen.pathParamsLast, if_true]
  rw [← List.append_assoc]
  exact last_write_wins body (query ++ pre) post p hs hpost

/-- **… on every stream transport, with or without a body mapping**: the first message a
WebSocket or HTTP-stream handler receives carries the captured value whether the rule maps a
body (the first frame is decoded, then the URL parameters are applied on top) or not (the
message is the URL alone) — `streamWS.RecvMsg` and `streamHTTP.RecvMsg` apply the parameters
outside their `hasBody` blocks (regenerated). -/
theorem path_wins_on_streams (hasBody : Bool) (frame : Msg) (query pre post : List P) (p : P)
    (hs : p.repeated = false) (hpost : ∀ q ∈ post, q.fp ≠ p.fp) :
    (recvFirst Gen.wsParamsOutsideBody Gen.pathParamsLast hasBody frame query (pre ++ p :: post)).get p.fp = [p.val] ∧
    (recvFirst Gen.httpParamsOutsideBody Gen.pathParamsLast hasBody frame query (pre ++ p :: post)).get p.fp = [p.val] := by
  cases hasBody
  · exact ⟨path_wins [] query pre post p hs hpost, path_wins [] query pre post p hs hpost⟩
  · exact ⟨path_wins frame query pre post p hs hpost, path_wins frame query pre post p hs hpost⟩

/-- the parameters are applied to the first message only (regenerated guards): the model's
`recvFirst` is the only place they enter. -/
theorem params_first_message_only : Gen.wsParamsFirstOnly = true ∧ Gen.httpParamsFirstOnly = true := by decide

/-- contrast: applied INSIDE the body block, a rule without a body loses the capture. -/
theorem inside_body_block_loses_capture :
    (recvFirst false true false [] [] [⟨1, false, [112]⟩]).get 1 = [] := by decide

/-- the theorem really depends on the order read from the source: with the path captures
applied first, a query parameter replaces the capture. -/
theorem order_matters :
    (decodeRequest false [] [⟨1, false, [113]⟩] [⟨1, false, [112]⟩]).get 1 = [[113]] := by decide

-- body holds "b", query says "q" twice, the path captured "p"
example : (decodeRequest Gen.pathParamsLast [(1, [[98]])] [⟨1, false, [113]⟩, ⟨2, false, [120]⟩, ⟨1, false, [113]⟩]
    [⟨1, false, [112]⟩]).get 1 = [[112]] := by decide

end Larking.Props.C07

#print axioms Larking.Props.C07.translator_complete
#print axioms Larking.Props.C07.skeleton_unchanged
#print axioms Larking.Props.C07.path_wins
#print axioms Larking.Props.C07.path_wins_on_streams
#print axioms Larking.Props.C07.params_first_message_only
#print axioms Larking.Props.C07.inside_body_block_loses_capture
#print axioms Larking.Props.C07.order_matters
