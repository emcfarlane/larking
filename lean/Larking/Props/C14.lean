import Larking.Gen.Grpc
import Larking.Gen.Missing
import Larking.Spec.Grpc
import Larking.Lemmas.Metadata
import Larking.Lemmas.WebWriter
import Larking.Gen.Skel
import Larking.Expected.C14
/-
  C14 — Metadata fidelity between HTTP headers and gRPC metadata.
-/
namespace Larking.Props.C14
open Larking.Metadata

def reserved := Gen.reservedHeaders
def whitelisted := Gen.whitelistedHeaders
def incomingMD (hdr : MD) : MD := incoming reserved whitelisted Gen.binPaddedWhenMul4 hdr
def outgoingHdr (md : MD) : MD := outgoing reserved md

theorem translator_complete : Gen.missing = [] := by decide

/-- the functions the metadata and gRPC-web trailer models were written against. -/
theorem skeleton_unchanged :
    (Gen.Skel.conds_webWriter_seeHeaders,
     Gen.Skel.stmts_webWriter_seeHeaders,
     Gen.Skel.conds_webWriter_writeTrailer,
     Gen.Skel.stmts_webWriter_writeTrailer,
     Gen.Skel.conds_webWriter_flushWithTrailer,
     Gen.Skel.stmts_webWriter_flushWithTrailer,
     Gen.Skel.conds_webWriter_Write,
     Gen.Skel.stmts_webWriter_Write,
     Gen.Skel.conds_webWriter_WriteHeader,
     Gen.Skel.stmts_webWriter_WriteHeader,
     Gen.Skel.conds_webWriter_Flush,
     Gen.Skel.stmts_webWriter_Flush,
     Gen.Skel.conds_newWebWriter,
     Gen.Skel.stmts_newWebWriter,
     Gen.Skel.conds_setOutgoingHeader,
     Gen.Skel.stmts_setOutgoingHeader,
     Gen.Skel.conds_setOutgoingTrailer,
     Gen.Skel.stmts_setOutgoingTrailer,
     Gen.Skel.conds_newIncomingContext,
     Gen.Skel.stmts_newIncomingContext,
     Gen.Skel.conds_decodeBinHeader,
     Gen.Skel.stmts_decodeBinHeader,
     Gen.Skel.conds_AsHTTPBodyWriter,
     Gen.Skel.stmts_AsHTTPBodyWriter)
  = (Expected.C14.conds_webWriter_seeHeaders,
     Expected.C14.stmts_webWriter_seeHeaders,
     Expected.C14.conds_webWriter_writeTrailer,
     Expected.C14.stmts_webWriter_writeTrailer,
     Expected.C14.conds_webWriter_flushWithTrailer,
     Expected.C14.stmts_webWriter_flushWithTrailer,
     Expected.C14.conds_webWriter_Write,
     Expected.C14.stmts_webWriter_Write,
     Expected.C14.conds_webWriter_WriteHeader,
     Expected.C14.stmts_webWriter_WriteHeader,
     Expected.C14.conds_webWriter_Flush,
     Expected.C14.stmts_webWriter_Flush,
     Expected.C14.conds_newWebWriter,
     Expected.C14.stmts_newWebWriter,
     Expected.C14.conds_setOutgoingHeader,
     Expected.C14.stmts_setOutgoingHeader,
     Expected.C14.conds_setOutgoingTrailer,
     Expected.C14.stmts_setOutgoingTrailer,
     Expected.C14.conds_newIncomingContext,
     Expected.C14.stmts_newIncomingContext,
     Expected.C14.conds_decodeBinHeader,
     Expected.C14.stmts_decodeBinHeader,
     Expected.C14.conds_AsHTTPBodyWriter,
     Expected.C14.stmts_AsHTTPBodyWriter) := rfl

/-- '-bin' request values are decoded whether or not they are padded, for every byte string. -/
theorem bin_accepts_padded_and_raw (b : Bytes) :
    decodeBin Gen.binPaddedWhenMul4 (Base64.encode false true b) = some b ∧
    decodeBin Gen.binPaddedWhenMul4 (Base64.encode false false b) = some b :=
  ⟨decodeBin_encode true b, decodeBin_encode false b⟩

/-- response '-bin' values are byte-exact: what a client decodes is what the handler set. -/
theorem outgoing_bin_exact (b : Bytes) :
    decodeBin Gen.binPaddedWhenMul4 (encodeBin b) = some b := decodeBin_encode false b

/-- every custom request header (not protocol-reserved, or whitelisted) reaches the handler
under its lower-cased key with all values in order; '-bin' values are decoded. -/
theorem incoming_custom (hdr : MD) (kv : Bytes × List Bytes) (hkv : kv ∈ hdr)
    (hcustom : reserved.contains (lower kv.1) = false ∨ whitelisted.contains (lower kv.1) = true) :
    (lower kv.1,
      if hasBinSuffix (lower kv.1)
      then kv.2.map (fun v => (decodeBin Gen.binPaddedWhenMul4 v).getD [])
      else kv.2) ∈ incomingMD hdr := by
  simp only [incomingMD, incoming, List.mem_filterMap]
  refine ⟨kv, hkv, ?_⟩
  unfold incomingEntry
  have : (reserved.contains (lower kv.1) && !whitelisted.contains (lower kv.1)) = false := by
    rcases hcustom with h | h
    · rw [h]; rfl
    · rw [h]; simp
  simp only [this, Bool.false_eq_true, if_false]
  cases hasBinSuffix (lower kv.1) <;> rfl

/-- … and a '-bin' header whose values are base64 (padded or not) of `bs` is seen as `bs`. -/
theorem incoming_bin_values (bs : List Bytes) (pads : List Bool) (hl : pads.length = bs.length) :
    (List.zipWith (fun b p => Base64.encode false p b) bs pads).map
      (fun v => (decodeBin Gen.binPaddedWhenMul4 v).getD []) = bs := by
  induction bs generalizing pads with
  | nil => simp
  | cons b bs ih =>
    cases pads with
    | nil => cases hl
    | cons p ps =>
      simp only [List.zipWith_cons_cons, List.map_cons, List.length_cons, Nat.add_right_cancel_iff] at hl ⊢
      rw [ih ps hl, show Gen.binPaddedWhenMul4 = true from rfl, decodeBin_encode]; rfl

/-- the code's reserved list covers the protocol's own keys (written from the gRPC spec). -/
theorem reserved_covers_protocol :
    ∀ k ∈ Spec.protocolKeys, (reserved.map bytesStr).contains k = true := by decide

/-- handler metadata (lower-case keys) can never write a protocol-reserved response key. -/
theorem reserved_not_forged (md : MD) (e : Bytes × List Bytes) (he : e ∈ outgoingHdr md)
    (hlow : ∀ kv ∈ md, lower kv.1 = kv.1) : reserved.contains (lower e.1) = false := by
  obtain ⟨kv, hkv, hr, rfl⟩ := mem_outgoing.mp he
  rw [lower_canonical, hlow kv hkv]; exact hr

/-- every non-reserved handler key is written, under its canonical header name, with its
values in order ('-bin' values base64-encoded). -/
theorem handler_headers_written (md : MD) (kv : Bytes × List Bytes) (hkv : kv ∈ md)
    (hr : reserved.contains kv.1 = false) :
    (canonical kv.1, if hasBinSuffix kv.1 then kv.2.map encodeBin else kv.2) ∈ outgoingHdr md :=
  mem_outgoing.mpr ⟨kv, hkv, hr, rfl⟩

/-- gRPC: handler trailers set after the header flush reach the client (net/http's trailer
rule is the stated parameter `deliveredTrailers`). -/
theorem handler_trailers_reach_client (announced : List Bytes) (trailer : MD) :
    deliveredTrailers announced (grpcTrailerEntries reserved Gen.grpcTrailersPrefixed trailer)
      = outgoingHdr trailer :=
  delivered_prefixed announced _

/-- after any sequence of header assignments, deletions, `Write` and `WriteHeader` calls, no
trailer key (`Trailer:` prefix) is ever counted among the headers already seen. -/
theorem web_trailer_keys_never_seen (ct : Bytes) (ops : List Web.Op) :
    ∀ k ∈ (Web.run ct ops).seen, trailerPrefix.isPrefixOf k = false :=
  Web.run_ok ct ops

/-- gRPC-web: a trailer the handler set (published by `serveGRPC` under `Trailer:`+name) is in
the trailer frame under its lower-cased name with all its values — whatever was assigned,
seen or written before, **including a header of the same name that already went out**, and
for every order in which Go ranges over the header map — provided no other unseen entry
maps to the same trailer name. -/
theorem web_trailers_reach_client (ct : Bytes) (ops : List Web.Op) (k0 : Bytes) (vs : List Bytes)
    (hmem : (trailerPrefix ++ k0, vs) ∈ (Web.run ct ops).hdr)
    (huniq : ∀ kv' ∈ (Web.run ct ops).hdr, (Web.run ct ops).seen.contains kv'.1 = false →
      Web.trailerKey kv'.1 = lower k0 → kv' = (trailerPrefix ++ k0, vs)) :
    Web.lookup (Web.trailerMap (Web.run ct ops)) (lower k0) = some vs := by
  have := Web.trailerMapOf_lookup (Web.run ct ops).seen (Web.run ct ops).hdr (trailerPrefix ++ k0, vs) hmem
    ((Web.run_ok ct ops).prefixed_unseen k0) (by simpa only [Web.trailerKey_prefixed] using huniq)
  rwa [Web.trailerKey_prefixed] at this

/-- nothing is invented: every entry of the trailer frame is an unseen header entry. -/
theorem web_trailers_not_invented (w : Web.W) (k : Bytes) (vs : List Bytes)
    (h : Web.lookup (Web.trailerMap w) k = some vs) :
    ∃ kv ∈ w.hdr, w.seen.contains kv.1 = false ∧ Web.trailerKey kv.1 = k ∧ kv.2 = vs :=
  Web.trailerMapOf_sound w.seen w.hdr k vs h

/-- contrast (seeded change C14-m4): looking `seen` up under the trimmed key loses a trailer
that shares its name with a header already sent. -/
theorem trim_first_loses_same_key_trailer :
    -- header "X-A" already sent; trailer "Trailer:X-A"
    Web.lookup (Web.trailerMapTrimFirst [[88, 45, 65]] [([88, 45, 65], [[1]]), (trailerPrefix ++ [88, 45, 65], [[2]])])
      [120, 45, 97] = none ∧
    Web.lookup (Web.trailerMapOf [[88, 45, 65]] [([88, 45, 65], [[1]]), (trailerPrefix ++ [88, 45, 65], [[2]])])
      [120, 45, 97] = some [[2]] := by decide

example : incomingMD [([88, 45, 65], [[97]]), ([84, 69], [[98]])] = [([120, 45, 97], [[97]])] := by decide
example : outgoingHdr [([120, 45, 98, 105, 110], [[1]]), ([116, 101], [[97]])]
    = [([88, 45, 66, 105, 110], [[65, 81]])] := by decide

example : Web.trailerMap (Web.run [97]
    [.set [88, 45, 65] [[49]], .write, .set (trailerPrefix ++ [88, 45, 65]) [[50]], .set (trailerPrefix ++ [71, 45, 83]) [[48]]])
    = [([120, 45, 97], [[50]]), ([103, 45, 115], [[48]])] := by decide

end Larking.Props.C14

#print axioms Larking.Props.C14.translator_complete
#print axioms Larking.Props.C14.skeleton_unchanged
#print axioms Larking.Props.C14.web_trailer_keys_never_seen
#print axioms Larking.Props.C14.web_trailers_reach_client
#print axioms Larking.Props.C14.web_trailers_not_invented
#print axioms Larking.Props.C14.trim_first_loses_same_key_trailer
#print axioms Larking.Props.C14.bin_accepts_padded_and_raw
#print axioms Larking.Props.C14.outgoing_bin_exact
#print axioms Larking.Props.C14.incoming_custom
#print axioms Larking.Props.C14.incoming_bin_values
#print axioms Larking.Props.C14.reserved_covers_protocol
#print axioms Larking.Props.C14.reserved_not_forged
#print axioms Larking.Props.C14.handler_headers_written
#print axioms Larking.Props.C14.handler_trailers_reach_client
