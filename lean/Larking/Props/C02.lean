import Larking.Gen.Skel
import Larking.Gen.Lexer
import Larking.Gen.Missing
import Larking.Expected.C02
import Larking.Lemmas.Complete
import Larking.Lemmas.LexerComplete
import Larking.Lemmas.Routes
import Larking.Lemmas.VarIndexComplete
import Larking.Lemmas.LiteralRoute
import Larking.Lemmas.Commute
import Larking.Lemmas.PatternText
import Larking.Gen.TrieDel
import Larking.Lemmas.TrieDelReach
/-
  C02 — Routing completeness, literal-over-wildcard precedence, order independence.
-/
namespace Larking.Props.C02
open Larking Larking.Lexer Larking.Trie

theorem translator_complete : Gen.missing = [] := by decide

theorem skeleton_unchanged :
    (Gen.Skel.conds_variable_index,
     Gen.Skel.stmts_variable_index,
     Gen.Skel.conds_path_search,
     Gen.Skel.stmts_path_search,
     Gen.Skel.conds_path_match,
     Gen.Skel.stmts_path_match,
     Gen.Skel.conds_path_addVariable,
     Gen.Skel.stmts_path_addVariable,
     Gen.Skel.conds_path_addPath,
     Gen.Skel.stmts_path_addPath,
     Gen.Skel.conds_lexTemplate,
     Gen.Skel.stmts_lexTemplate,
     Gen.Skel.conds_lexSegments,
     Gen.Skel.stmts_lexSegments,
     Gen.Skel.conds_lexSegment,
     Gen.Skel.stmts_lexSegment,
     Gen.Skel.conds_lexVariable,
     Gen.Skel.stmts_lexVariable,
     Gen.Skel.conds_lexFieldPath,
     Gen.Skel.stmts_lexFieldPath,
     Gen.Skel.conds_lexVerb,
     Gen.Skel.stmts_lexVerb,
     Gen.Skel.conds_lexIdent,
     Gen.Skel.stmts_lexIdent,
     Gen.Skel.conds_lexLiteral,
     Gen.Skel.stmts_lexLiteral,
     Gen.Skel.conds_isIdent,
     Gen.Skel.stmts_isIdent,
     Gen.Skel.conds_isLiteral,
     Gen.Skel.stmts_isLiteral,
     Gen.Skel.conds_isPath,
     Gen.Skel.stmts_isPath,
     Gen.Skel.conds_Mux_match,
     Gen.Skel.stmts_Mux_match,
     Gen.Skel.conds_Mux_ServeHTTP,
     Gen.Skel.stmts_Mux_ServeHTTP,
     Gen.Skel.conds_path_clone,
     Gen.Skel.stmts_path_clone,
     Gen.Skel.conds_lexPath,
     Gen.Skel.stmts_lexPath,
     Gen.Skel.conds_lexPathSegment,
     Gen.Skel.stmts_lexPathSegment,
     Gen.Skel.conds_path_delRule,
     Gen.Skel.stmts_path_delRule,
     Gen.Skel.conds_path_alive,
     Gen.Skel.stmts_path_alive)
  = (Expected.C02.conds_variable_index,
     Expected.C02.stmts_variable_index,
     Expected.C02.conds_path_search,
     Expected.C02.stmts_path_search,
     Expected.C02.conds_path_match,
     Expected.C02.stmts_path_match,
     Expected.C02.conds_path_addVariable,
     Expected.C02.stmts_path_addVariable,
     Expected.C02.conds_path_addPath,
     Expected.C02.stmts_path_addPath,
     Expected.C02.conds_lexTemplate,
     Expected.C02.stmts_lexTemplate,
     Expected.C02.conds_lexSegments,
     Expected.C02.stmts_lexSegments,
     Expected.C02.conds_lexSegment,
     Expected.C02.stmts_lexSegment,
     Expected.C02.conds_lexVariable,
     Expected.C02.stmts_lexVariable,
     Expected.C02.conds_lexFieldPath,
     Expected.C02.stmts_lexFieldPath,
     Expected.C02.conds_lexVerb,
     Expected.C02.stmts_lexVerb,
     Expected.C02.conds_lexIdent,
     Expected.C02.stmts_lexIdent,
     Expected.C02.conds_lexLiteral,
     Expected.C02.stmts_lexLiteral,
     Expected.C02.conds_isIdent,
     Expected.C02.stmts_isIdent,
     Expected.C02.conds_isLiteral,
     Expected.C02.stmts_isLiteral,
     Expected.C02.conds_isPath,
     Expected.C02.stmts_isPath,
     Expected.C02.conds_Mux_match,
     Expected.C02.stmts_Mux_match,
     Expected.C02.conds_Mux_ServeHTTP,
     Expected.C02.stmts_Mux_ServeHTTP,
     Expected.C02.conds_path_clone,
     Expected.C02.stmts_path_clone,
     Expected.C02.conds_lexPath,
     Expected.C02.stmts_lexPath,
     Expected.C02.conds_lexPathSegment,
     Expected.C02.stmts_lexPathSegment,
     Expected.C02.conds_path_delRule,
     Expected.C02.stmts_path_delRule,
     Expected.C02.conds_path_alive,
     Expected.C02.stmts_path_alive) := rfl

/-- **Completeness.** For every accepted list of rules: whenever some way through the trie
matches the request's tokens for the request's verb (that is what a registered rule matching
verb and path amounts to, `route_sound` being the converse), the request is dispatched — it is
never answered 404 / 405 — provided the captures convert. -/
theorem route_complete (conv) (hconv : ∀ f t, conv f t = true)
    (rs : List (Rule × Nat × (List Bytes → Option Nat))) (t : Node)
    (hb : buildAll Gen.tokenCap rs .empty = .ok t) (verb : Bytes) (toks : List Tok)
    (m : Meth) (caps : Caps) (es : List Edge) (hway : Reach conv verb t toks m caps es) :
    ∃ m' caps', search conv verb t toks = .found m' caps' :=
  search_complete conv verb hconv t toks m caps es hway 0 (buildAll_WF (WF_empty 0) hb)

/-- **Literal over wildcard.** If the child that spells the next segment literally leads to a
match, that match is the result: variables and wildcards of the same node are not consulted. -/
theorem literal_beats_variable (conv) (verb) (segs : List (Bytes × Node)) (methods) (all) (vars)
    (t0 t1 : Tok) (rest : List Tok) (child : Node) (m : Meth) (caps : Caps)
    (hl : lookupSeg segs (t0.val ++ t1.val) = some child)
    (hs : search conv verb child rest = .found m caps) :
    search conv verb (.mk segs methods all vars) (t0 :: t1 :: rest) = .found m caps := by
  rw [search_cons_cons, Node.segs, hl, Option.map_some, hs]

/-- a literal-child *failure* never hides a matching variable sibling (backtracking). -/
theorem variable_after_failed_literal (conv) (verb) (hconv : ∀ f t, conv f t = true) (k : Nat)
    (segs : List (Bytes × Node)) (methods) (all) (vars : List (Var × Node))
    (hwf : WF k (.mk segs methods all vars))
    (t0 t1 : Tok) (rest : List Tok) (v : Var) (child : Node) (i : Nat) (m : Meth) (caps : Caps)
    (ht0 : t0.typ = .slash) (hmem : (v, child) ∈ vars)
    (hidx : varIndex v.toks (t1 :: rest) 0 = .ok (some i))
    (hs : search conv verb child ((t1 :: rest).drop i) = .found m caps) :
    ∃ m' caps', search conv verb (.mk segs methods all vars) (t0 :: t1 :: rest) = .found m' caps' := by
  obtain ⟨es, hre⟩ := search_sound hs
  exact way_dispatched conv hconv verb _ _ (.var v :: es)
    (.var _ child v t0 (t1 :: rest) i es ht0 hmem (Nat.succ_pos _) hidx (reach_way hre)) k hwf

/-- the characters larking documents as valid in a path segment are accepted by `isPath`
(flags regenerated from the compiled predicates: 2 = ident, 4 = literal, 8 = path). -/
def Spec.documentedPathChars : List Nat :=
  -- a-z A-Z 0-9 . - _ ~ ! $ & ' ( ) * + , ; = @   (probes of each class)
  [97, 98, 99, 120, 121, 122, 65, 66, 67, 88, 89, 90, 48, 49, 50, 51, 52, 53, 54, 55, 56, 57,
   46, 45, 95, 126, 33, 36, 38, 39, 40, 41, 42, 43, 44, 59, 61, 64]

theorem documented_chars_accepted :
    ∀ c ∈ Spec.documentedPathChars, ∃ p ∈ Gen.charClasses, p.1 = c ∧ p.2 / 8 % 2 = 1 := by decide

/-- separators and template metacharacters are *not* path characters. -/
theorem separators_not_path :
    ∀ c ∈ [47, 58, 123, 125], ∃ p ∈ Gen.charClasses, p.1 = c ∧ p.2 / 8 % 2 = 0 := by decide

/-- variables are kept sorted by name whatever the insertion order (two distinct names). -/
theorem upsertVar_order_independent (v1 v2 : Var) (c1 c2 : Node) (h : v1.name ≠ v2.name)
    (hlt : bytesLt v1.name v2.name = true) (hnlt : bytesLt v2.name v1.name = false) :
    upsertVar (upsertVar [] v1 c1) v2 c2 = upsertVar (upsertVar [] v2 c2) v1 c1 :=
  upsertVar_comm h

/-- **Every documented path reaches the router as tokens**: a request path made of '/'- (or
':'-) separated non-empty runs of the characters larking documents as valid
(`documented_chars_accepted` ties the classes to the regenerated table) is lexed to exactly
its separator and segment tokens whenever they fit the token array — up to
`(Gen.tokenCap - 1) / 2` segments; `route_complete` then speaks about these tokens. -/
theorem documented_paths_lex (segs : PathSegs) (hwf : WfPath segs) (hcap : 2 * segs.length + 1 ≤ Gen.tokenCap) :
    lexPath Gen.tokenCap (renderPath segs) = .ok (pathToks segs ++ [⟨.eof, []⟩]) :=
  lexPath_complete Gen.tokenCap segs hwf hcap

example : lexPath Gen.tokenCap (renderPath [(⟨[47], 47, false, false, false, false⟩, [⟨[97], 97, true, true, true, true⟩]),
      (⟨[58], 58, false, false, false, false⟩, [⟨[59], 59, false, false, false, true⟩])])
    = .ok [⟨.slash, [47]⟩, ⟨.path, [97]⟩, ⟨.verb, [58]⟩, ⟨.path, [59]⟩, ⟨.eof, []⟩] := by decide

/-- **Registered ⇒ dispatched, end to end over the trie.** For every accepted list of rules
(each with its additional bindings), every binding `b` of every rule and every request whose
tokens instantiate `b`'s template (`Routed`: literal and verb edges spell the tokens, every
variable's sub-pattern matches its capture — `EdgeMatch` over the very edges `addRule` walks
for `b`) with `b`'s kind (any kind when `b` binds `*`): the request is dispatched by the final
trie, never 404 / 405 — whatever was registered before or after `b`, in whatever order.
`g` states the one fact about the lexer this needs: `addVariable` keys a variable by the text
of its pattern, and across the rule set equal pattern text means equal pattern tokens. -/
theorem accepted_rules_are_routed (conv) (hconv : ∀ f t, conv f t = true) (g : Bytes → List Tok)
    (rs : List (Rule × Nat × (List Bytes → Option Nat))) (t : Node)
    (hb : buildAll Gen.tokenCap rs .empty = .ok t)
    (hg : ∀ e ∈ rs, ∀ b ∈ e.1.bindings, BindingG Gen.tokenCap g e.2.2 b)
    (e) (he : e ∈ rs) (b : Binding) (hbm : b ∈ e.1.bindings) (verb : Bytes) (toks : List Tok)
    (hr : Routed Gen.tokenCap e.2.2 b verb toks) :
    ∃ m caps, search conv verb t toks = .found m caps := by
  obtain ⟨es', hw⟩ := buildAll_way hb (NFg_empty g) hg he hbm hr
  exact way_dispatched conv hconv verb t toks es' hw 0 (buildAll_WF (WF_empty 0) hb)

/-- **No later registration takes a route away**: a request the router dispatches keeps being
dispatched after any further accepted registrations (to the same or a more specific binding). -/
theorem dispatch_survives_registrations (conv) (hconv : ∀ f t, conv f t = true)
    (rs more : List (Rule × Nat × (List Bytes → Option Nat))) (t t' : Node)
    (hb : buildAll Gen.tokenCap rs .empty = .ok t) (hm : buildAll Gen.tokenCap more t = .ok t')
    (verb : Bytes) (toks : List Tok) (m : Meth) (caps : Caps)
    (hs : search conv verb t toks = .found m caps) :
    ∃ m' caps', search conv verb t' toks = .found m' caps' := by
  obtain ⟨es, hre⟩ := search_sound hs
  have hw := buildAll_ext Gen.tokenCap more t t' hm verb toks es (reach_way hre)
  have hwf := buildAll_WF (buildAll_WF (WF_empty 0) hb) hm
  exact way_dispatched conv hconv verb t' toks es hw 0 hwf

private theorem aliveSound : AliveSound Gen.aliveCounts := by unfold AliveSound; decide

/-- **No deletion takes another method's route away**: on the trie built by any accepted
registrations, a request the router dispatches to a method that is NOT the one being removed
still has its way — same edges, same captures — and is still dispatched after `path.delRule`
ran for `name` any number of times (`DropConn`, re-registration of a changed connection), with
every pruning of dead nodes on the way back up (`path.alive`, regenerated: `Gen.aliveCounts`). -/
theorem dispatch_survives_deletions (conv) (hconv : ∀ f t, conv f t = true)
    (rs : List (Rule × Nat × (List Bytes → Option Nat))) (t : Node)
    (hb : buildAll Gen.tokenCap rs .empty = .ok t) (name fuel : Nat)
    (verb : Bytes) (toks : List Tok) (m : Meth) (caps : Caps)
    (hs : search conv verb t toks = .found m caps) (hne : m.mid ≠ name) :
    (∃ es, Reach conv verb (delAll Gen.aliveCounts name fuel t) toks m caps es) ∧
    ∃ m' caps', search conv verb (delAll Gen.aliveCounts name fuel t) toks = .found m' caps' := by
  obtain ⟨es, hre⟩ := search_sound hs
  have hre' : Reach conv verb (delAll Gen.aliveCounts name fuel t) toks m caps es :=
    delAll_induct (fun _ _ hd h => delRule_keeps_reach aliveSound h hne hd) fuel t hre
  have hwf : WF 0 (delAll Gen.aliveCounts name fuel t) :=
    delAll_induct (fun _ _ hd h => delRule_wf h hd) fuel t (buildAll_WF (WF_empty 0) hb)
  exact ⟨⟨es, hre'⟩, search_complete conv verb hconv _ toks m caps es hre' 0 hwf⟩

/-- … one deletion step, stated on any well-formed trie. -/
theorem delRule_keeps_ways (conv) (verb : Bytes) (name k : Nat) (n n' : Node) (hwf : WF k n)
    (hd : delRule Gen.aliveCounts name n = some n') (toks : List Tok) (m : Meth) (caps : Caps)
    (es : List Edge) (hr : Reach conv verb n toks m caps es) (hne : m.mid ≠ name) :
    Reach conv verb n' toks m caps es ∧ WF k n' :=
  ⟨delRule_keeps_reach aliveSound hr hne hd, delRule_wf hwf hd⟩

/-- not vacuous, and the pruning really happens: removing method 1's `GET /p/x` from a trie that
also holds method 2's `GET /p` prunes `/p/x` and keeps `/p`. -/
example :
    let mA : Meth := ⟨1, [], 0⟩
    let mB : Meth := ⟨2, [], 1⟩
    let x : Node := .mk [] [([71, 69, 84], mA)] none []
    let pn : Node := .mk [([47, 120], x)] [([71, 69, 84], mB)] none []
    let root : Node := .mk [([47, 112], pn)] [] none []
    delRule Gen.aliveCounts 1 root = some (.mk [([47, 112], .mk [] [([71, 69, 84], mB)] none [])] [] none []) := by
  rfl

/-- **`variable.index` finds every greedy instance of a sub-pattern** (`GMatch`: literals and
'/' token for token, `*` the maximal run of non-separator tokens, `**` everything up to the
verb): the capture it reports is exactly the instance. The converse is `capture_matches_pattern`
(C01). -/
theorem variable_index_complete (pat cap rest : List Tok) (h : GMatch pat cap rest) (i : Nat) :
    varIndex pat (cap ++ rest) i = .ok (some (i + cap.length)) :=
  varIndex_complete h i

/-- **determinism of captures**: a request has at most one greedy instance of a variable's
sub-pattern in front of it, so what a variable captures depends on the request alone. -/
theorem capture_unique (pat cap1 rest1 cap2 rest2 : List Tok)
    (h1 : GMatch pat cap1 rest1) (h2 : GMatch pat cap2 rest2) (he : cap1 ++ rest1 = cap2 ++ rest2) :
    cap1 = cap2 ∧ rest1 = rest2 := by
  have e1 := varIndex_complete h1 0
  rw [he, varIndex_complete h2 0] at e1
  injection e1 with e1; injection e1 with e1
  exact List.append_inj he (Nat.add_left_cancel e1).symm

/-- `accepted_rules_are_routed` with the request described declaratively: `EdgeInst` reads the
binding's edges as a pattern — a literal or verb edge is the next two request tokens spelled out,
a variable edge covers a non-empty greedy instance of its sub-pattern — with no reference to
`variable.index`. -/
theorem accepted_rules_route_their_instances (conv) (hconv : ∀ f t, conv f t = true) (g : Bytes → List Tok)
    (rs : List (Rule × Nat × (List Bytes → Option Nat))) (t : Node)
    (hb : buildAll Gen.tokenCap rs .empty = .ok t)
    (hg : ∀ e ∈ rs, ∀ b ∈ e.1.bindings, BindingG Gen.tokenCap g e.2.2 b)
    (e) (he : e ∈ rs) (b : Binding) (hbm : b ∈ e.1.bindings) (es : List Edge)
    (hes : bindingEdges Gen.tokenCap e.2.2 b = some es) (verb : Bytes) (toks : List Tok)
    (hi : EdgeInst es toks) (hk : b.verb = starVerb ∨ verb = b.verb) :
    ∃ m caps, search conv verb t toks = .found m caps :=
  accepted_rules_are_routed conv hconv g rs t hb hg e he b hbm verb toks
    ⟨es, hes, edgeInst_edgeMatch hi, hk⟩

/-- … and for a binding whose template is of the documented grammar, the edges are the grammar's
own reading of the template (`Tmpl.edges`: `"/"+literal`, `":"+verb`, one variable edge per `*`,
`**` or `{field=pattern}`). -/
theorem grammar_binding_edges (resolve : List Bytes → Option Nat) (b : Binding) (t : Tmpl)
    (ht : t.Wf) (hb : b.tmpl = t.render) (hcap : t.toks.length ≤ Gen.tokenCap) (hres : t.Resolves resolve) :
    bindingEdges Gen.tokenCap resolve b = some t.edges :=
  bindingEdges_of_grammar ht hb hcap hres

/-- **String level, literal templates** (every method's implicit `/pkg.Service/Method` route is
one): for every accepted list of rules, a binding whose template is
`"/" LITERAL { "/" LITERAL } [ ":" LITERAL ]`, and a request whose path is that very text (its
segments being path characters, '/' and ':' spelled in ASCII), `path.match` dispatches the
request for the binding's kind — lexTemplate, addRule's token loop, the insertion, every later
insertion, lexPath and the search composed. -/
theorem literal_route_dispatches (conv) (hconv : ∀ f t, conv f t = true) (g : Bytes → List Tok)
    (rs : List (Rule × Nat × (List Bytes → Option Nat))) (t : Node)
    (hb : buildAll Gen.tokenCap rs .empty = .ok t)
    (hg : ∀ e ∈ rs, ∀ b ∈ e.1.bindings, BindingG Gen.tokenCap g e.2.2 b)
    (e) (he : e ∈ rs) (b : Binding) (hbm : b ∈ e.1.bindings)
    (l : LitTmpl) (hwf : l.toTmpl.Wf) (hbt : b.tmpl = l.toTmpl.render)
    (hcap : l.toTmpl.toks.length ≤ Gen.tokenCap)
    (hpath : WfPath l.segs) (hpcap : 2 * l.segs.length + 1 ≤ Gen.tokenCap) (ha : l.Ascii)
    (verb : Bytes) (hk : b.verb = starVerb ∨ verb = b.verb) :
    ∃ m caps, matchPath Gen.tokenCap conv t b.tmpl verb = .found m caps := by
  have hes := grammar_binding_edges e.2.2 b l.toTmpl hwf hbt hcap (l.resolves e.2.2)
  have hi := l.edgeInst ha
  obtain ⟨m, caps, hs⟩ := accepted_rules_route_their_instances conv hconv g rs t hb hg e he b hbm
    l.toTmpl.edges hes verb _ hi hk
  refine ⟨m, caps, ?_⟩
  simp only [matchPath, hbt, l.render_eq, lexPath_complete Gen.tokenCap l.segs hpath hpcap, hs]

/-- **Order independence of registration.** Take the bindings of a rule list (primary and
additional, none nested) in ANY other order — rules permuted, bindings moved between positions:
if the first list is accepted, so is the second, and the two tries are EQUAL (Go's maps being
kept in a canonical sorted form, the variables slice being sorted by the code itself), so every
request is routed identically. Hypotheses: no two bindings end in the same slot — the same way
through the trie and the same kind (two methods there are refused in either order; two bindings
of one method there are the recorded order dependence, `KNOWN_FINDINGS`) — and equal pattern text
means equal pattern tokens (`g`). -/
theorem registration_order_independent (g : Bytes → List Tok)
    (rs1 rs2 : List (Rule × Nat × (List Bytes → Option Nat)))
    (hperm : (stepsOf rs1).Perm (stepsOf rs2))
    (hn1 : ∀ e ∈ rs1, ∀ p ∈ e.1.additional, p.2 = false)
    (hn2 : ∀ e ∈ rs2, ∀ p ∈ e.1.additional, p.2 = false)
    (hslots : (stepsOf rs1).Pairwise (DistinctSlots Gen.tokenCap))
    (hg : ∀ s ∈ stepsOf rs1, BindingG Gen.tokenCap g s.resolve s.b)
    (t : Node) (h : buildAll Gen.tokenCap rs1 .empty = .ok t) :
    buildAll Gen.tokenCap rs2 .empty = .ok t := by
  exact (buildAll_ok_iff Gen.tokenCap rs2 .empty).mpr
    ⟨hn2, addAll_perm hperm hslots hg ((buildAll_ok_iff Gen.tokenCap rs1 .empty).mp h).2⟩

/-- … in particular for the rules themselves in any other order. -/
theorem rule_order_independent (g : Bytes → List Tok)
    (rs1 rs2 : List (Rule × Nat × (List Bytes → Option Nat))) (hperm : rs1.Perm rs2)
    (hn1 : ∀ e ∈ rs1, ∀ p ∈ e.1.additional, p.2 = false)
    (hslots : (stepsOf rs1).Pairwise (DistinctSlots Gen.tokenCap))
    (hg : ∀ s ∈ stepsOf rs1, BindingG Gen.tokenCap g s.resolve s.b)
    (t : Node) (h : buildAll Gen.tokenCap rs1 .empty = .ok t) (conv) (verb : Bytes) (toks : List Tok) :
    ∃ t2, buildAll Gen.tokenCap rs2 .empty = .ok t2 ∧ search conv verb t2 toks = search conv verb t toks :=
  ⟨t, registration_order_independent g rs1 rs2 (hperm.flatMap_right _) hn1
    (fun e he => hn1 e (hperm.mem_iff.mpr he)) hslots hg t h, rfl⟩

/-- two bindings, either order: the same trie (the adjacent swap everything above is built from). -/
theorem two_bindings_commute (g : Bytes → List Tok) (s1 s2 : Step) (t a ab : Node)
    (hg1 : BindingG Gen.tokenCap g s1.resolve s1.b) (hg2 : BindingG Gen.tokenCap g s2.resolve s2.b)
    (hd : DistinctSlots Gen.tokenCap s1 s2)
    (h1 : addBinding Gen.tokenCap s1.resolve t s1.b s1.mid = .ok a)
    (h2 : addBinding Gen.tokenCap s2.resolve a s2.b s2.mid = .ok ab) :
    ∃ b, addBinding Gen.tokenCap s2.resolve t s2.b s2.mid = .ok b ∧
      addBinding Gen.tokenCap s1.resolve b s1.b s1.mid = .ok ab :=
  addBinding_swap hg1 hg2 hd h1 h2

/-- a binding of the documented grammar (as `grammar_templates_lex` reads it), within the token array,
its field paths resolving, its runes spelled as UTF-8 spells them ('*' and '/' in ASCII; the bytes
of a literal rune contain neither). -/
def GrammarBinding (resolve : List Bytes → Option Nat) (b : Binding) : Prop :=
  ∃ t : Tmpl, t.Wf ∧ b.tmpl = t.render ∧ t.toks.length ≤ Gen.tokenCap ∧ t.Resolves resolve ∧ tmplAscii t

/-- **the lexer fact is a theorem for the documented grammar**: the text of a canonical sub-pattern
determines its tokens (`toksString_inj`), so every grammar binding obeys one and the same function
`gCanon` from pattern text to pattern tokens — the hypothesis `BindingG` of the theorems above. -/
theorem grammar_binding_obeys_g (resolve : List Bytes → Option Nat) (b : Binding) (h : GrammarBinding resolve b) :
    BindingG Gen.tokenCap gCanon resolve b := by
  obtain ⟨t, ht, hb, hcap, hres, ha⟩ := h
  exact grammar_bindingG ht hb hcap hres ha

/-- `accepted_rules_are_routed` for rule sets of the documented grammar — no hypothesis about the lexer left. -/
theorem grammar_rules_are_routed (conv) (hconv : ∀ f t, conv f t = true)
    (rs : List (Rule × Nat × (List Bytes → Option Nat))) (t : Node)
    (hb : buildAll Gen.tokenCap rs .empty = .ok t)
    (hgr : ∀ e ∈ rs, ∀ b ∈ e.1.bindings, GrammarBinding e.2.2 b)
    (e) (he : e ∈ rs) (b : Binding) (hbm : b ∈ e.1.bindings) (verb : Bytes) (toks : List Tok)
    (hr : Routed Gen.tokenCap e.2.2 b verb toks) :
    ∃ m caps, search conv verb t toks = .found m caps :=
  accepted_rules_are_routed conv hconv gCanon rs t hb
    (fun e' he' b' hb' => grammar_binding_obeys_g e'.2.2 b' (hgr e' he' b' hb')) e he b hbm verb toks hr

/-- `rule_order_independent` for rule sets of the documented grammar. -/
theorem grammar_rule_order_independent
    (rs1 rs2 : List (Rule × Nat × (List Bytes → Option Nat))) (hperm : rs1.Perm rs2)
    (hn1 : ∀ e ∈ rs1, ∀ p ∈ e.1.additional, p.2 = false)
    (hslots : (stepsOf rs1).Pairwise (DistinctSlots Gen.tokenCap))
    (hgr : ∀ e ∈ rs1, ∀ b ∈ e.1.bindings, GrammarBinding e.2.2 b)
    (t : Node) (h : buildAll Gen.tokenCap rs1 .empty = .ok t) (conv) (verb : Bytes) (toks : List Tok) :
    ∃ t2, buildAll Gen.tokenCap rs2 .empty = .ok t2 ∧ search conv verb t2 toks = search conv verb t toks := by
  refine rule_order_independent gCanon rs1 rs2 hperm hn1 hslots ?_ t h conv verb toks
  intro s hs
  obtain ⟨e, he, b, hb, rfl⟩ := mem_stepsOf.mp hs
  exact grammar_binding_obeys_g e.2.2 b (hgr e he b hb)

-- non-vacuity: GET "/v/{a=s/*}" and the request tokens of "/v/s/x"
private def pu (c : Nat) : Rune := ⟨[UInt8.ofNat c], c, false, false, false, false⟩
private def le (c : Nat) : Rune := ⟨[UInt8.ofNat c], c, true, true, true, true⟩
private def bEx : Binding :=
  { verb := [71, 69, 84], tmpl := [pu 47, le 118, pu 47, pu 123, le 97, pu 61, le 115, pu 47, pu 42, pu 125],
    bodyOk := true, respOk := true, rule := 0 }
private def esEx : List Edge :=
  [.seg [47, 118], .var ⟨[115, 47, 42], [⟨.literal, [115]⟩, ⟨.slash, [47]⟩, ⟨.star, [42]⟩]⟩]
private def reqEx : List Tok :=
  [⟨.slash, [47]⟩, ⟨.path, [118]⟩, ⟨.slash, [47]⟩, ⟨.path, [115]⟩, ⟨.slash, [47]⟩, ⟨.path, [120]⟩, ⟨.eof, []⟩]
private theorem bEx_edges : bindingEdges Gen.tokenCap (fun _ => some 0) bEx = some esEx := by decide
example : bindingEdges Gen.tokenCap (fun _ => some 0) bEx = some esEx := bEx_edges
example : Routed Gen.tokenCap (fun _ => some 0) bEx [71, 69, 84] reqEx :=
  ⟨esEx, bEx_edges,
    .seg ⟨.slash, [47]⟩ ⟨.path, [118]⟩ _ _
      (.var _ ⟨.slash, [47]⟩ _ 4 [] rfl (by decide) (by decide) (.nil _ (by decide))),
    Or.inr rfl⟩
example : EdgeInst esEx reqEx :=
  .seg ⟨.slash, [47]⟩ ⟨.path, [118]⟩ _ _
    (.var _ ⟨.slash, [47]⟩ [⟨.path, [115]⟩, ⟨.slash, [47]⟩, ⟨.path, [120]⟩, ⟨.eof, []⟩] [] [] rfl (by simp)
      (.literal _ _ _ _ _ rfl rfl rfl
        (.slash _ _ _ _ _ rfl rfl
          (.star _ [] [⟨.path, [120]⟩, ⟨.eof, []⟩] [] [] rfl (by simp) (by decide) (by simp) (.nil []))))
      (.nil [] (by simp)))
private def lEx : LitTmpl :=
  { slash := pu 47, first := [le 97], more := [(pu 47, [le 98])], verb := some (pu 58, [le 99]) }   -- "/a/b:c"
example : lEx.toTmpl.Wf ∧ WfPath lEx.segs ∧ lEx.Ascii ∧ lEx.toTmpl.toks.length ≤ Gen.tokenCap :=
  ⟨⟨by decide, ⟨⟨_, _, rfl, rfl⟩, by decide⟩,
      List.forall_mem_singleton.mpr ⟨by decide, ⟨⟨_, _, rfl, rfl⟩, by decide⟩⟩, by decide, by decide, by decide⟩,
    List.forall_mem_cons.mpr ⟨by decide, List.forall_mem_cons.mpr ⟨by decide, List.forall_mem_singleton.mpr (by decide)⟩⟩,
    ⟨by decide, List.forall_mem_singleton.mpr (by decide), fun _ hp => Option.some.inj hp ▸ by decide⟩, by decide⟩
-- non-vacuity of the order theorems: GET "/v/{a=s/*}" for method 1 and POST on the same template for method 2
private def rsEx : List (Rule × Nat × (List Bytes → Option Nat)) :=
  [(⟨bEx, []⟩, 1, fun _ => some 0), (⟨{ bEx with verb := [80, 79, 83, 84], rule := 1 }, []⟩, 2, fun _ => some 0)]
example : (stepsOf rsEx).Pairwise (DistinctSlots Gen.tokenCap) :=
  -- the two slots differ in the verb
  .cons (fun s hs h => by cases List.mem_singleton.mp hs; exact absurd (congrArg Prod.snd h) (by decide)) (.cons nofun .nil)
example : ∃ t, buildAll Gen.tokenCap rsEx .empty = .ok t ∧ buildAll Gen.tokenCap rsEx.reverse .empty = .ok t :=
  ⟨_, rfl, rfl⟩
-- non-vacuity of GrammarBinding: bEx's template "/v/{a=s/*}" as a template of the grammar
private def tEx : Tmpl :=
  { slash := pu 47, first := .simple (.lit [le 118]),
    more := [(pu 47, .var { lbrace := pu 123, ident := [le 97], dotted := [],
                            sub := some (pu 61, .lit [le 115], [(pu 47, .star (pu 42))]), rbrace := pu 125 })],
    verb := none }
example : bEx.tmpl = tEx.render ∧ tEx.toks.length ≤ Gen.tokenCap ∧ tEx.Resolves (fun _ => some 0) :=
  ⟨by decide, by decide, trivial, List.forall_mem_singleton.mpr rfl⟩
example : tmplAscii tEx :=
  ⟨⟨by decide, List.forall_mem_singleton.mpr ⟨by decide, by decide⟩⟩,
    List.forall_mem_singleton.mpr ⟨⟨by decide, List.forall_mem_singleton.mpr ⟨by decide, by decide⟩⟩,
      List.forall_mem_singleton.mpr ⟨by decide, (by decide : (pu 42).bytes = [42])⟩⟩⟩
example : tEx.Wf :=
  ⟨by decide, ⟨⟨_, _, rfl, rfl⟩, by decide⟩,
    List.forall_mem_singleton.mpr ⟨by decide, by decide, by decide, by decide, by decide, by decide,
      ⟨⟨_, _, rfl, rfl⟩, by decide⟩, List.forall_mem_singleton.mpr ⟨by decide, (by decide : Punct cStar (pu 42))⟩⟩,
    trivial⟩
example : BindingG Gen.tokenCap (fun _ => [⟨.literal, [115]⟩, ⟨.slash, [47]⟩, ⟨.star, [42]⟩]) (fun _ => some 0) bEx := by
  intro es he e hmem
  rw [bEx_edges] at he; injection he with he; subst he
  simp only [esEx, List.mem_cons, List.mem_nil_iff, or_false] at hmem
  rcases hmem with h | h <;> subst h <;> simp [edgeG]

end Larking.Props.C02

#print axioms Larking.Props.C02.translator_complete
#print axioms Larking.Props.C02.skeleton_unchanged
#print axioms Larking.Props.C02.route_complete
#print axioms Larking.Props.C02.literal_beats_variable
#print axioms Larking.Props.C02.variable_after_failed_literal
#print axioms Larking.Props.C02.documented_chars_accepted
#print axioms Larking.Props.C02.separators_not_path
#print axioms Larking.Props.C02.upsertVar_order_independent
#print axioms Larking.Props.C02.documented_paths_lex
#print axioms Larking.Props.C02.accepted_rules_are_routed
#print axioms Larking.Props.C02.dispatch_survives_registrations
#print axioms Larking.Props.C02.dispatch_survives_deletions
#print axioms Larking.Props.C02.delRule_keeps_ways
#print axioms Larking.Props.C02.variable_index_complete
#print axioms Larking.Props.C02.accepted_rules_route_their_instances
#print axioms Larking.Props.C02.grammar_binding_edges
#print axioms Larking.Props.C02.literal_route_dispatches
#print axioms Larking.Props.C02.registration_order_independent
#print axioms Larking.Props.C02.rule_order_independent
#print axioms Larking.Props.C02.two_bindings_commute
#print axioms Larking.Props.C02.grammar_binding_obeys_g
#print axioms Larking.Props.C02.grammar_rules_are_routed
#print axioms Larking.Props.C02.grammar_rule_order_independent
#print axioms Larking.Props.C02.capture_unique
