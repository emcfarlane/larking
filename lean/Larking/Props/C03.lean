import Larking.Gen.Skel
import Larking.Gen.Params
import Larking.Gen.Missing
import Larking.Expected.C03
import Larking.Lemmas.Param
/-
  C03 — Transcoded request reconstruction.  The text conversions that larking + encoding/json
  decide (the five integer families, bool, bytes) are modelled byte for byte and proved for
  every value; `params.set` is modelled on an abstract message.  float/double text,
  protojson-parsed well-known types, the body codecs and gzip are library parameters that the
  correspondence run exercises (see DESIGN).
-/
namespace Larking.Props.C03
open Larking.Param

theorem translator_complete : Gen.missing = [] := by decide

theorem skeleton_unchanged :
    (Gen.Skel.conds_parseParam,
     Gen.Skel.stmts_parseParam,
     Gen.Skel.conds_quote,
     Gen.Skel.stmts_quote,
     Gen.Skel.conds_params_set,
     Gen.Skel.stmts_params_set,
     Gen.Skel.conds_method_parseQueryParams,
     Gen.Skel.stmts_method_parseQueryParams,
     Gen.Skel.conds_fieldPath,
     Gen.Skel.stmts_fieldPath,
     Gen.Skel.conds_streamHTTP_RecvMsg,
     Gen.Skel.stmts_streamHTTP_RecvMsg,
     Gen.Skel.conds_streamHTTP_decodeRequestArgs,
     Gen.Skel.stmts_streamHTTP_decodeRequestArgs,
     Gen.Skel.conds_streamHTTP_getCodec,
     Gen.Skel.stmts_streamHTTP_getCodec,
     Gen.Skel.conds_Mux_ServeHTTP,
     Gen.Skel.stmts_Mux_ServeHTTP,
     Gen.Skel.conds_Mux_match,
     Gen.Skel.stmts_Mux_match)
  = (Expected.C03.conds_parseParam,
     Expected.C03.stmts_parseParam,
     Expected.C03.conds_quote,
     Expected.C03.stmts_quote,
     Expected.C03.conds_params_set,
     Expected.C03.stmts_params_set,
     Expected.C03.conds_method_parseQueryParams,
     Expected.C03.stmts_method_parseQueryParams,
     Expected.C03.conds_fieldPath,
     Expected.C03.stmts_fieldPath,
     Expected.C03.conds_streamHTTP_RecvMsg,
     Expected.C03.stmts_streamHTTP_RecvMsg,
     Expected.C03.conds_streamHTTP_decodeRequestArgs,
     Expected.C03.stmts_streamHTTP_decodeRequestArgs,
     Expected.C03.conds_streamHTTP_getCodec,
     Expected.C03.stmts_streamHTTP_getCodec,
     Expected.C03.conds_Mux_ServeHTTP,
     Expected.C03.stmts_Mux_ServeHTTP,
     Expected.C03.conds_Mux_match,
     Expected.C03.stmts_Mux_match) := rfl

/-- **exact conversion**: every value of every integer kind, written as proto3 JSON writes it
in a URL (plain decimal), is converted to exactly that value. -/
theorem int_exact (k : IntKind) (v : Int) (hmin : k.min ≤ v) (hmax : v ≤ k.max) :
    parseInt k (printInt v) = some v := parseInt_print k v hmin hmax

/-- **no coercion**: whatever integer text is accepted is `null` or a canonical JSON integer
literal denoting exactly the result, within the kind's range; a sign only for signed kinds.
So fractions, exponents, '+', leading zeros, quotes, hex, overflow are all refused. -/
theorem int_no_coercion (k : IntKind) (raw : Bytes) (v : Int) (h : parseInt k raw = some v) :
    (trimWS raw = nullLit ∧ v = 0) ∨
    ∃ (neg : Bool) (ds : Bytes), trimWS raw = (if neg then 45 :: ds else ds) ∧ isNatLit ds = true ∧
      v = (if neg then -(digitsVal ds : Int) else (digitsVal ds : Int)) ∧ k.min ≤ v ∧ v ≤ k.max ∧
      (neg = true → k.signed = true) := parseInt_sound k raw v h

/-- bool: only `true`, `false` and `null` (JSON whitespace aside) are accepted. -/
theorem bool_no_coercion (raw : Bytes) (b : Bool) (h : parseBool raw = some b) :
    (trimWS raw = [116, 114, 117, 101] ∧ b = true) ∨ (trimWS raw = [102, 97, 108, 115, 101] ∧ b = false) ∨
    (trimWS raw = nullLit ∧ b = false) := parseBool_sound raw b h

/-- **bytes**: every byte string in any of the four base64 forms protojson accepts (standard
or URL alphabet, padded or not) is decoded back exactly. -/
theorem bytes_exact (url pad : Bool) (bs : Bytes) :
    parseBytes (Base64.encode url pad bs) = some bs := parseBytes_roundtrip url pad bs

/-- fields no parameter names keep what the body decoded into them. -/
theorem untouched_fields (body : Msg) (query path : List P) (fp : Nat)
    (hq : ∀ q ∈ query, q.fp ≠ fp) (hp : ∀ q ∈ path, q.fp ≠ fp) :
    (decodeRequest Gen.pathParamsLast body query path).get fp = body.get fp := by
  refine setAll_other _ body fp fun q hq' => ?_
  simp only [Gen.pathParamsLast, if_true, List.mem_append] at hq'
  exact hq'.elim (hq q) (hp q)

/-- a singular field named once in the URL gets exactly that value, whatever else is sent. -/
theorem singular_field (body : Msg) (pre post : List P) (p : P) (hs : p.repeated = false)
    (hpost : ∀ q ∈ post, q.fp ≠ p.fp) :
    (setAll body (pre ++ p :: post)).get p.fp = [p.val] := last_write_wins body pre post p hs hpost

/-- a repeated field gets every URL occurrence appended in order. -/
theorem repeated_field (body : Msg) (query path : List P) (fp : Nat)
    (h : ∀ p ∈ query ++ path, p.fp = fp → p.repeated = true) :
    (decodeRequest Gen.pathParamsLast body query path).get fp
      = body.get fp ++ (((query ++ path).filter (fun p => p.fp == fp)).map (·.val)) :=
  repeated_appends _ body fp h

example : parseInt ⟨true, 32⟩ [45, 50, 49, 52, 55, 52, 56, 51, 54, 52, 56] = some (-2147483648) := by decide  -- "-2147483648"
example : parseInt ⟨true, 32⟩ [50, 49, 52, 55, 52, 56, 51, 54, 52, 56] = none := by decide      -- "2147483648"
example : parseInt ⟨false, 32⟩ [45, 48] = none := by decide                                   -- "-0"
example : parseInt ⟨true, 64⟩ [49, 46, 48] = none := by decide                                -- "1.0"
example : parseInt ⟨true, 64⟩ [48, 49] = none := by decide                                    -- "01"
example : parseBytes [81, 81, 61, 61] = some [65] := by decide                                -- "QQ=="
example : parseBytes [81, 81] = some [65] := by decide                                        -- "QQ"
example : (decodeRequest true [] [⟨1, true, [97]⟩, ⟨1, true, [98]⟩] []).get 1 = [[97], [98]] := by decide

/-- **enum numbers are open**: every int32 number, written in decimal, is accepted for every
enum and converted to exactly that number — whether or not the enum declares a value for it
(proto3 enums are open; the number is the only URL spelling of such a value). -/
theorem enum_number_open (names : List (Bytes × Int)) (v : Int)
    (hmin : (⟨true, 32⟩ : IntKind).min ≤ v) (hmax : v ≤ (⟨true, 32⟩ : IntKind).max) :
    parseEnum names (printInt v) = some v := by
  simp only [parseEnum, parseInt_print ⟨true, 32⟩ v hmin hmax]

/-- **enum names**: a text that is not a number is looked up among the declared names and
converted to the number declared for it (the first declaration of that name). -/
theorem enum_name_exact (names : List (Bytes × Int)) (raw : Bytes) (v : Int)
    (hnum : parseInt ⟨true, 32⟩ raw = none) (hl : lookupName names raw = some v) :
    parseEnum names raw = some v := by
  simp only [parseEnum, hnum, hl]

/-- **no coercion**: an accepted enum text is an int32 literal (or `null`) denoting the result, or
exactly one of the declared names; anything else — a misspelt or differently cased name, a
fraction, a number out of the int32 range — is refused. -/
theorem enum_no_coercion (names : List (Bytes × Int)) (raw : Bytes) (v : Int)
    (h : parseEnum names raw = some v) :
    parseInt ⟨true, 32⟩ raw = some v ∨ (∃ p ∈ names, p.1 = raw ∧ p.2 = v) := by
  revert h
  rw [parseEnum]
  cases parseInt ⟨true, 32⟩ raw with
  | some x => rintro ⟨⟩; exact Or.inl rfl
  | none => exact fun h => Or.inr (lookupName_some h)

/-- string fields receive the text itself. -/
theorem string_exact (raw : Bytes) : parseString raw = raw := rfl

example : parseEnum [([65], 1), ([66, 67], 2)] [55] = some 7 ∧ parseEnum [([65], 1), ([66, 67], 2)] [66, 67] = some 2 ∧
    parseEnum [([65], 1), ([66, 67], 2)] [98, 99] = none ∧ parseEnum [([65], 1)] [49, 46, 53] = none := by decide

end Larking.Props.C03

#print axioms Larking.Props.C03.translator_complete
#print axioms Larking.Props.C03.skeleton_unchanged
#print axioms Larking.Props.C03.int_exact
#print axioms Larking.Props.C03.int_no_coercion
#print axioms Larking.Props.C03.bool_no_coercion
#print axioms Larking.Props.C03.bytes_exact
#print axioms Larking.Props.C03.untouched_fields
#print axioms Larking.Props.C03.singular_field
#print axioms Larking.Props.C03.repeated_field
#print axioms Larking.Props.C03.enum_number_open
#print axioms Larking.Props.C03.enum_name_exact
#print axioms Larking.Props.C03.enum_no_coercion
#print axioms Larking.Props.C03.string_exact
