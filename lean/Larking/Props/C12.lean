import Larking.Gen.Skel
import Larking.Gen.Missing
import Larking.Expected.C12
import Larking.Lemmas.Cow
import Larking.Lemmas.CowTrie
import Larking.Lemmas.Writers
/-
  C12 — Registration is atomic with respect to concurrent serving.  Three models make the sharing and the
  interleaving explicit: the handler lists as Go slices on a heap of backing arrays that `clone()` shares (Cow),
  the routing trie with nodes tagged by the clone call that allocated them (CowTrie), the mutex protocol with
  threads interleaving at statement granularity (Writers).  The statement order of the writer calls and the
  number of `loadState` calls per function are regenerated from the AST.
-/
namespace Larking.Props.C12
open Larking.Registry

theorem translator_complete : Gen.missing = [] := by decide

theorem skeleton_unchanged :
    (Gen.Skel.conds_state_clone,
     Gen.Skel.stmts_state_clone,
     Gen.Skel.conds_path_clone,
     Gen.Skel.stmts_path_clone,
     Gen.Skel.conds_state_removeHandler,
     Gen.Skel.stmts_state_removeHandler,
     Gen.Skel.conds_state_appendHandler,
     Gen.Skel.stmts_state_appendHandler,
     Gen.Skel.conds_Mux_registerService,
     Gen.Skel.stmts_Mux_registerService,
     Gen.Skel.conds_Mux_RegisterConn,
     Gen.Skel.stmts_Mux_RegisterConn,
     Gen.Skel.conds_Mux_DropConn,
     Gen.Skel.stmts_Mux_DropConn,
     Gen.Skel.conds_Mux_loadState,
     Gen.Skel.stmts_Mux_loadState,
     Gen.Skel.conds_Mux_storeState,
     Gen.Skel.stmts_Mux_storeState,
     Gen.Skel.conds_state_pickMethodHandler,
     Gen.Skel.stmts_state_pickMethodHandler)
  = (Expected.C12.conds_state_clone,
     Expected.C12.stmts_state_clone,
     Expected.C12.conds_path_clone,
     Expected.C12.stmts_path_clone,
     Expected.C12.conds_state_removeHandler,
     Expected.C12.stmts_state_removeHandler,
     Expected.C12.conds_state_appendHandler,
     Expected.C12.stmts_state_appendHandler,
     Expected.C12.conds_Mux_registerService,
     Expected.C12.stmts_Mux_registerService,
     Expected.C12.conds_Mux_RegisterConn,
     Expected.C12.stmts_Mux_RegisterConn,
     Expected.C12.conds_Mux_DropConn,
     Expected.C12.stmts_Mux_DropConn,
     Expected.C12.conds_Mux_loadState,
     Expected.C12.stmts_Mux_loadState,
     Expected.C12.conds_Mux_storeState,
     Expected.C12.stmts_Mux_storeState,
     Expected.C12.conds_state_pickMethodHandler,
     Expected.C12.stmts_state_pickMethodHandler) := rfl

/-- the three writer calls take the lock before loading and release it after storing. -/
theorem writer_order : ∀ p ∈ Gen.Skel.writerOrder, p.2 = ["lock", "load", "modify", "store", "unlock"] := by decide

/-- every function that reads the published state loads it exactly once (one consistent
snapshot per request / per writer call). -/
theorem one_load_each : ∀ p ∈ Gen.Skel.stateLoads, p.2 = 1 := by decide
theorem readers_listed : Gen.Skel.stateLoads.map (·.1) =
    ["Mux.DropConn", "Mux.RegisterConn", "Mux.registerService", "Mux.serveGRPC", "Mux.serveHTTP"] := rfl

/-- **published handler lists are immutable**: for every history of writer calls (any
appends and removals, succeeding or failing, any slice growth policy), what a reader sees
through any map that was ever published never changes — although `clone()` shares every
slice with the published state and `append` writes in place whenever there is capacity. -/
theorem published_lists_immutable (grow : Nat → Nat) (before after : List (List Cow.Micro × Bool)) :
    let s := Cow.calls grow Cow.Sys.init before
    ∀ P ∈ s.pubs, ∀ m, Cow.view (Cow.calls grow s after).heap (P m) = Cow.view s.heap (P m) :=
  (Cow.calls_spec grow after _ (Cow.calls_spec grow before _ Cow.inv_init).1).2

/-- the slices are the registry model's lists: an append shows `old ++ [x]`, a removal the
filtered list, every other method's list is untouched (so C11's theorems speak about what
readers see). -/
theorem lists_refine (grow : Nat → Nat) (h : Cow.Heap) (W : Cow.HMap) (pubs : List Cow.HMap) (μ : Cow.Micro)
    (hi : Cow.WInv h W pubs) (m : Nat) :
    Cow.view (Cow.micro grow h W μ).1 ((Cow.micro grow h W μ).2 m) =
      match μ with
      | .app m' x => if m = m' then Cow.view h (W m) ++ [x] else Cow.view h (W m)
      | .rem m' x => if m = m' then (Cow.view h (W m)).filter (fun y => y ≠ x) else Cow.view h (W m) :=
  (Cow.micro_spec grow h W pubs μ hi).2.2 m

/-- contrast (the seeded in-place filter): with `hds := s.handlers[name][:0]` the published
list [1, 2] turns into [2, 2] under the reader. -/
theorem in_place_filter_corrupts :
    let s := Cow.calls (fun c => 2 * c) Cow.Sys.init [([.app 7 1, .app 7 2], true)]
    let r := Cow.microInPlace (fun c => 2 * c) s.heap (Cow.latest s) 7 1
    Cow.view s.heap (Cow.latest s 7) = [1, 2] ∧ Cow.view r.1 (Cow.latest s 7) = [2, 2] := by decide

/-- **the routing trie of a published state is never written**: `clone()` re-allocates every
node (tag `g`), so whatever a registration then adds, every node it writes carries `g` — and
no published trie contains a node with that tag. -/
theorem published_trie_untouched (g : Nat) (pubs : List CowTrie.GNode) (latest : CowTrie.GNode)
    (rules : List (List CowTrie.Edge × Nat × Nat))
    (hfresh : ∀ P ∈ pubs, ∀ x ∈ CowTrie.gens P, x < g) :
    ∀ w ∈ (CowTrie.addRoutes g (CowTrie.clone g latest) rules).2, ∀ P ∈ pubs, w ∉ CowTrie.gens P := by
  intro w hw P hP hin
  have h1 := (CowTrie.addRoutes_all (P := (· = g)) rfl rules _ (CowTrie.clone_gens g latest)).1 w hw
  exact Nat.ne_of_lt (hfresh P hP w hin) h1

/-- and the working trie stays private after any number of rules (so `delRule`, which only
unlinks nodes of the working trie, cannot reach a published node either). -/
theorem working_trie_private (g : Nat) (latest : CowTrie.GNode) (rules : List (List CowTrie.Edge × Nat × Nat)) :
    ∀ x ∈ CowTrie.gens (CowTrie.addRoutes g (CowTrie.clone g latest) rules).1, x = g :=
  (CowTrie.addRoutes_all (P := (· = g)) rfl rules _ (CowTrie.clone_gens g latest)).2

/-- **`delRule` on the working copy never writes a published node**: after the deep clone and any
number of added rules, whatever `delRule` writes (the node that loses the binding, every node on
the way up that may lose a child) is a node of the working copy, and what is left of the
working copy is still private — for any number of `delRule` calls in a row. -/
theorem delRule_writes_only_the_working_copy (g : Nat) (pubs : List CowTrie.GNode) (latest : CowTrie.GNode)
    (rules : List (List CowTrie.Edge × Nat × Nat)) (name : Nat) (r : CowTrie.GNode × List Nat)
    (hfresh : ∀ P ∈ pubs, ∀ x ∈ CowTrie.gens P, x < g)
    (h : CowTrie.delRoute name (CowTrie.addRoutes g (CowTrie.clone g latest) rules).1 = some r) :
    (∀ w ∈ r.2, ∀ P ∈ pubs, w ∉ CowTrie.gens P) ∧ (∀ x ∈ CowTrie.gens r.1, x = g) := by
  obtain ⟨h1, h2⟩ := CowTrie.delRoute_all name _ r h (working_trie_private g latest rules)
  exact ⟨fun w hw P hP hin => Nat.ne_of_lt (hfresh P hP w hin) (h1 w hw), h2⟩

/-- contrast (the seeded shallow variable copy): a rule through an existing variable writes a
node of the published trie. -/
theorem shallow_clone_writes_published :
    let pub : CowTrie.GNode := .mk 0 [] [(5, .mk 0 [] [] [] none)] [] none
    (CowTrie.addRoute 1 (CowTrie.cloneShallowVars 1 pub) [.var 5] 9 3).2 = [0] := by decide

/-- **no lost update, no torn state**: for every interleaving of any number of concurrent
writer calls, the published state is the sequential result of the calls stored so far (in
store order), at most one thread is between Lock and Unlock, and a thread that has loaded
works on the state that is still the published one. -/
theorem serializable (ch : Chooser) (ops : Nat → Op) (sched : List Nat) :
    let s := Writers.runSched Writers.canon ch (Writers.Sys.init ops) sched
    s.pub = run ch St.init s.log ∧
    (∀ i j, (s.ths i).held = true → (s.ths j).held = true → i = j) ∧
    (∀ i, (s.ths i).pc = 2 → (s.ths i).loc = s.pub) := by
  have h := Writers.sched_inv ch sched _ (Writers.inv_init ch ops)
  exact ⟨h.serial, h.mutex, h.loaded⟩

/-- **all together or not at all**: a step of any thread either leaves the published state
alone or replaces it with the complete result of one call — work in progress is never
published; a failing call (C11.failed_changes_nothing) therefore changes nothing. -/
theorem visible_atomically (ch : Chooser) (ops : Nat → Op) (sched : List Nat) (i : Nat) :
    let s := Writers.runSched Writers.canon ch (Writers.Sys.init ops) sched
    (Writers.stepTh Writers.canon ch s i).pub = s.pub ∨
    (Writers.stepTh Writers.canon ch s i).pub = (step ch s.pub (s.ths i).op).1 :=
  Writers.pub_atomic ch _ i (Writers.sched_inv ch sched _ (Writers.inv_init ch ops))

/-- contrast (the seeded lock move): with load and modify before Lock, two overlapping
registrations lose one: both stored, only one visible. -/
theorem unlocked_load_loses_update :
    let bad : List Writers.Stmt := [.load, .modify, .lock, .store, .unlock]
    let ops : Nat → Op := fun i => if i = 0 then .regService [⟨7, [70]⟩] else .regService [⟨8, [80]⟩]
    let s := Writers.runSched bad firstOf (Writers.Sys.init ops) [0, 0, 1, 1, 0, 0, 0, 1, 1, 1]
    s.log.length = 2 ∧ ((s.pub.handlers 7).length, (s.pub.handlers 8).length) = (0, 1) := by decide

end Larking.Props.C12

#print axioms Larking.Props.C12.translator_complete
#print axioms Larking.Props.C12.skeleton_unchanged
#print axioms Larking.Props.C12.writer_order
#print axioms Larking.Props.C12.one_load_each
#print axioms Larking.Props.C12.readers_listed
#print axioms Larking.Props.C12.published_lists_immutable
#print axioms Larking.Props.C12.lists_refine
#print axioms Larking.Props.C12.in_place_filter_corrupts
#print axioms Larking.Props.C12.published_trie_untouched
#print axioms Larking.Props.C12.working_trie_private
#print axioms Larking.Props.C12.shallow_clone_writes_published
#print axioms Larking.Props.C12.serializable
#print axioms Larking.Props.C12.visible_atomically
#print axioms Larking.Props.C12.unlocked_load_loses_update
#print axioms Larking.Props.C12.delRule_writes_only_the_working_copy
