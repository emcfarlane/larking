import Larking.Gen.Skel
import Larking.Gen.Missing
import Larking.Expected.C04
import Larking.Lemmas.Negotiate
import Larking.Lemmas.FieldPath
import Larking.Gen.Params
/-
  C04 — Unary response fidelity and truthful response headers (negotiation and the
  body / response_body selectors proved; the marshalling codecs are parameters, see the level note).
-/
namespace Larking.Props.C04
open Larking.Negotiate

theorem translator_complete : Gen.missing = [] := by decide

theorem skeleton_unchanged :
    (Gen.Skel.conds_parseAccept,
     Gen.Skel.stmts_parseAccept,
     Gen.Skel.conds_expectQuality,
     Gen.Skel.stmts_expectQuality,
     Gen.Skel.conds_negotiateContentType,
     Gen.Skel.stmts_negotiateContentType,
     Gen.Skel.conds_negotiateContentEncoding,
     Gen.Skel.stmts_negotiateContentEncoding,
     Gen.Skel.conds_streamHTTP_SendMsg,
     Gen.Skel.stmts_streamHTTP_SendMsg,
     Gen.Skel.conds_streamHTTP_writeMsg,
     Gen.Skel.stmts_streamHTTP_writeMsg,
     Gen.Skel.conds_NewMux,
     Gen.Skel.stmts_NewMux,
     Gen.Skel.conds_path_addRule,
     Gen.Skel.stmts_path_addRule,
     Gen.Skel.conds_fieldPath,
     Gen.Skel.stmts_fieldPath,
     Gen.Skel.conds_mutablePath,
     Gen.Skel.stmts_mutablePath,
     Gen.Skel.conds_ownField,
     Gen.Skel.stmts_ownField)
  = (Expected.C04.conds_parseAccept,
     Expected.C04.stmts_parseAccept,
     Expected.C04.conds_expectQuality,
     Expected.C04.stmts_expectQuality,
     Expected.C04.conds_negotiateContentType,
     Expected.C04.stmts_negotiateContentType,
     Expected.C04.conds_negotiateContentEncoding,
     Expected.C04.stmts_negotiateContentEncoding,
     Expected.C04.conds_streamHTTP_SendMsg,
     Expected.C04.stmts_streamHTTP_SendMsg,
     Expected.C04.conds_streamHTTP_writeMsg,
     Expected.C04.stmts_streamHTTP_writeMsg,
     Expected.C04.conds_NewMux,
     Expected.C04.stmts_NewMux,
     Expected.C04.conds_path_addRule,
     Expected.C04.stmts_path_addRule,
     Expected.C04.conds_fieldPath,
     Expected.C04.stmts_fieldPath,
     Expected.C04.conds_mutablePath,
     Expected.C04.stmts_mutablePath,
     Expected.C04.conds_ownField,
     Expected.C04.stmts_ownField) := rfl

/-- the response type is the request's own (the default) or a registered type that an Accept
range with q ≠ 0 admits — for every Accept header whatsoever (any bytes, any number of
header lines). -/
theorem content_type_sound (accept : List Bytes) (offers : List Bytes) (own : Bytes) :
    let r := negotiateContentType (parseAccept accept) offers own
    r = own ∨ (r ∈ offers ∧ ∃ s ∈ parseAccept accept, s.q.isZero = false ∧ rangeMatches s.value r = true) :=
  negotiate_sound (parseAccept accept) offers own

/-- whenever a registered type satisfies the Accept header (some parsed range with q > 0
admits it), the response type is a registered type the header admits — never the fallback. -/
theorem content_type_complete (accept : List Bytes) (offers : List Bytes) (own : Bytes)
    (hex : ∃ o ∈ offers, ∃ s ∈ parseAccept accept, 0 < s.q.num ∧ rangeMatches s.value o = true) :
    let r := negotiateContentType (parseAccept accept) offers own
    r ∈ offers ∧ ∃ s ∈ parseAccept accept, s.q.isZero = false ∧ rangeMatches s.value r = true :=
  negotiate_complete (parseAccept accept) offers own (parseAccept_den accept) hex

/-- an Accept header without any parsable range leaves the request's own type. -/
theorem content_type_default (offers : List Bytes) (own : Bytes) :
    negotiateContentType (parseAccept []) offers own = own := by
  simp only [parseAccept, List.flatMap_nil, negotiateContentType]
  induction offers with
  | nil => rfl
  | cons o rest ih => exact ih

-- Accept "x/y;q=0.9, a/b;q=0.1" with offers c/d, a/b and own type c/d
example : negotiateContentType
    (parseAccept [[120, 47, 121, 59, 113, 61, 48, 46, 57, 44, 32, 97, 47, 98, 59, 113, 61, 48, 46, 49]])
    [[99, 47, 100], [97, 47, 98]] [99, 47, 100] = [97, 47, 98] := by decide
example : ∃ o ∈ [[99, 47, 100], [97, 47, 98]], ∃ s ∈ parseAccept [[97, 47, 42]],   -- "a/*"
    0 < s.q.num ∧ rangeMatches s.value o = true := by decide

open Larking.FieldPath

/-- **a `response_body` selector yields exactly the selected field of the reply**: `addRule`
resolves the selector with ALL its dot-separated components against the REPLY message's fields
(both regenerated), and walking the reply along the resolved fields (`mutablePath`) arrives at
the field the components name, one level per component — for every descriptor tree, every
selector and every reply. -/
theorem response_body_selects_the_named_field (fs : List Field) (sel : Bytes) (p : List Nat) (reply : Val)
    (h : resolve Gen.respSelectorAll fs sel = some p) :
    Gen.respSelectorOnReply = true ∧ p.length = (splitDots sel).length ∧
    select fs reply (splitDots sel) = some (mutablePath reply p) :=
  ⟨rfl, resolve_all h reply⟩

/-- the same for a `body` selector, against the REQUEST message's fields. -/
theorem body_selects_the_named_field (fs : List Field) (sel : Bytes) (p : List Nat) (req : Val)
    (h : resolve Gen.bodySelectorAll fs sel = some p) :
    Gen.bodySelectorOnRequest = true ∧ p.length = (splitDots sel).length ∧
    select fs req (splitDots sel) = some (mutablePath req p) :=
  ⟨rfl, resolve_all h req⟩

/-- not vacuous, and the contrast: `nested.child` resolves to the field of the field; resolved from
its first component alone the rule would answer with the whole `nested` message. -/
theorem first_component_only_selects_the_parent :
    let child : Desc := .mk [([115], [115], 1, false, none)]
    let nested : Desc := .mk [([99, 104], [99, 104], 3, false, some child)]
    let fs : List Field := [([110], [110], 7, false, some nested)]
    let sel : Bytes := [110, 46, 99, 104]                       -- "n.ch"
    let leaf : Val := .msg [(1, .scalar [120])]
    let reply : Val := .msg [(7, .msg [(3, leaf), (9, .scalar [121])])]
    resolve true fs sel = some [7, 3] ∧ mutablePath reply [7, 3] = leaf ∧
    resolve false fs sel = some [7] ∧ mutablePath reply [7] = .msg [(3, leaf), (9, .scalar [121])] := by
  exact ⟨rfl, rfl, rfl, rfl⟩

end Larking.Props.C04

#print axioms Larking.Props.C04.translator_complete
#print axioms Larking.Props.C04.skeleton_unchanged
#print axioms Larking.Props.C04.content_type_sound
#print axioms Larking.Props.C04.content_type_complete
#print axioms Larking.Props.C04.content_type_default
#print axioms Larking.Props.C04.response_body_selects_the_named_field
#print axioms Larking.Props.C04.body_selects_the_named_field
#print axioms Larking.Props.C04.first_component_only_selects_the_parent
