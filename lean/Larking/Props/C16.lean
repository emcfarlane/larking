import Larking.Gen.Skel
import Larking.Gen.Lexer
import Larking.Gen.Missing
import Larking.Expected.C16
import Larking.Lemmas.LexerTotal
import Larking.Lemmas.Provenance
import Larking.Lemmas.LexerComplete
import Larking.Lemmas.Accept
/-
  C16 — Registration accepts valid rules and rejects invalid ones without crashing.
  Proved here: the lexers are total; conflict detection and re-declaration at the rule's end
  node; nested variables and unresolvable selectors are errors; an accepted rule keeps the
  trie well-formed (so that routing afterwards cannot crash, C01).  Every template of the documented
  grammar is lexed to its tokens (`grammar_templates_lex`) and `addRule` accepts them on every trie
  unless a binding conflicts (`grammar_rules_accepted`); that the instantiated paths are then dispatched is
  C02 (`grammar_rules_are_routed`, `literal_route_dispatches`).
-/
namespace Larking.Props.C16
open Larking Larking.Lexer Larking.Trie

theorem translator_complete : Gen.missing = [] := by decide

theorem skeleton_unchanged :
    (Gen.Skel.conds_path_addRule,
     Gen.Skel.stmts_path_addRule,
     Gen.Skel.conds_path_addPath,
     Gen.Skel.stmts_path_addPath,
     Gen.Skel.conds_path_addVariable,
     Gen.Skel.stmts_path_addVariable,
     Gen.Skel.conds_path_search,
     Gen.Skel.stmts_path_search,
     Gen.Skel.conds_lexTemplate,
     Gen.Skel.stmts_lexTemplate,
     Gen.Skel.conds_lexSegments,
     Gen.Skel.stmts_lexSegments,
     Gen.Skel.conds_lexSegment,
     Gen.Skel.stmts_lexSegment,
     Gen.Skel.conds_lexVariable,
     Gen.Skel.stmts_lexVariable,
     Gen.Skel.conds_lexFieldPath,
     Gen.Skel.stmts_lexFieldPath,
     Gen.Skel.conds_lexVerb,
     Gen.Skel.stmts_lexVerb,
     Gen.Skel.conds_lexIdent,
     Gen.Skel.stmts_lexIdent,
     Gen.Skel.conds_lexLiteral,
     Gen.Skel.stmts_lexLiteral,
     Gen.Skel.conds_lexer_emit,
     Gen.Skel.stmts_lexer_emit,
     Gen.Skel.conds_Mux_registerService,
     Gen.Skel.stmts_Mux_registerService,
     Gen.Skel.conds_state_appendHandler,
     Gen.Skel.stmts_state_appendHandler)
  = (Expected.C16.conds_path_addRule,
     Expected.C16.stmts_path_addRule,
     Expected.C16.conds_path_addPath,
     Expected.C16.stmts_path_addPath,
     Expected.C16.conds_path_addVariable,
     Expected.C16.stmts_path_addVariable,
     Expected.C16.conds_path_search,
     Expected.C16.stmts_path_search,
     Expected.C16.conds_lexTemplate,
     Expected.C16.stmts_lexTemplate,
     Expected.C16.conds_lexSegments,
     Expected.C16.stmts_lexSegments,
     Expected.C16.conds_lexSegment,
     Expected.C16.stmts_lexSegment,
     Expected.C16.conds_lexVariable,
     Expected.C16.stmts_lexVariable,
     Expected.C16.conds_lexFieldPath,
     Expected.C16.stmts_lexFieldPath,
     Expected.C16.conds_lexVerb,
     Expected.C16.stmts_lexVerb,
     Expected.C16.conds_lexIdent,
     Expected.C16.stmts_lexIdent,
     Expected.C16.conds_lexLiteral,
     Expected.C16.stmts_lexLiteral,
     Expected.C16.conds_lexer_emit,
     Expected.C16.stmts_lexer_emit,
     Expected.C16.conds_Mux_registerService,
     Expected.C16.stmts_Mux_registerService,
     Expected.C16.conds_state_appendHandler,
     Expected.C16.stmts_state_appendHandler) := rfl

/-- the template lexer is total: any string (any runes, any classification) gives tokens or
an error, never a crash — in particular the fixed token array cannot overflow. -/
theorem lexTemplate_total (input : List Rune) (s : String) :
    lexTemplate Gen.tokenCap input ≠ .panic s := lexTemplate_no_panic Gen.tokenCap input s

theorem lexPath_total (input : List Rune) (s : String) :
    lexPath Gen.tokenCap input ≠ .panic s := lexPath_no_panic Gen.tokenCap input s

/-- **Conflicts are rejected**: a binding (whose own selectors resolve) whose end node already
binds the same kind for another method is an error and nothing is stored. -/
theorem conflict_rejected (n : Node) (verb : Bytes) (mid : Nat) (mk : Unit → Outcome Meth) (m e : Meth)
    (hmk : mk () = .ok m)
    (hex : (if verb == starVerb then n.all else lookupMeth n.methods verb) = some e)
    (hne : e.mid ≠ mid) : register n verb mid mk = .err "duplicate-rule" := by
  obtain ⟨segs, methods, all, vars⟩ := n
  dsimp only [Node.all, Node.methods] at hex
  simp only [register, hmk, registerCore, hex]
  exact if_pos (bne_iff_ne.mpr hne)

/-- … while re-declaring a method's own binding (with selectors that resolve) is accepted and
changes nothing. -/
theorem redeclare_noop (n : Node) (verb : Bytes) (mid : Nat) (mk : Unit → Outcome Meth) (m e : Meth)
    (hmk : mk () = .ok m)
    (hex : (if verb == starVerb then n.all else lookupMeth n.methods verb) = some e)
    (heq : e.mid = mid) : register n verb mid mk = .ok n := by
  obtain ⟨segs, methods, all, vars⟩ := n
  dsimp only [Node.all, Node.methods] at hex
  simp only [register, hmk, registerCore, hex]
  rw [heq, bne_self_eq_false]
  rfl

/-- **An unresolvable body / response_body selector is rejected wherever the rule ends** — also
when its pattern is already bound to the same method (then the rule would otherwise be a
silent no-op) or to another one. -/
theorem bad_selector_rejected_everywhere (n : Node) (verb : Bytes) (mid : Nat) (mk : Unit → Outcome Meth) (k : String)
    (hmk : mk () = .err k) : register n verb mid mk = .err k := by
  simp only [register, hmk]

/-- contrast — the order before fix `4bb7939`: the slot was looked at first, so a rule with a
selector that does not resolve was accepted when its pattern was already the method's. -/
theorem slot_first_accepts_a_bad_selector (segs : List (Bytes × Node)) (vars) (e : Meth) (verb : Bytes)
    (hv : (verb == starVerb) = false) :
    registerCore (.mk segs [(verb, e)] none vars) verb e.mid (fun _ => .err "body-field")
      = .ok (.mk segs [(verb, e)] none vars) := by
  simp [registerCore, hv, lookupMeth]

/-- a verb rule and a '*' rule on the same path do not conflict (either order). -/
theorem star_and_verb_coexist (segs : List (Bytes × Node)) (methods) (vars) (m0 : Meth) (verb : Bytes)
    (hv : (verb == starVerb) = false) (hnone : lookupMeth methods verb = none) (mid : Nat) (m : Meth) :
    register (.mk segs methods (some m0) vars) verb mid (fun _ => .ok m)
      = .ok (.mk segs (upsertMeth methods verb m) (some m0) vars) := by
  simp [register, registerCore, hv, hnone]

/-- nested variables are rejected with an error (never the historical panic). -/
theorem nested_variable_rejected (pre post : List Tok) (inner : Tok)
    (hinner : okPatTok inner = false) (hne : inner.typ ≠ .varEnd) (hpre : ∀ t ∈ pre, okPatTok t = true ∧ t.typ ≠ .varEnd) :
    patToks (pre ++ inner :: post) = none := by
  have h1 : (inner.typ == TokTy.varEnd) = false := beq_eq_false_iff_ne.mpr hne
  simp [patToks_append hpre, patToks, h1, hinner]

/-- every accepted rule leaves a well-formed trie: by induction, routing over any trie the
mux ever publishes cannot crash. -/
theorem accepted_keeps_wellformed (resolve) (n n' : Node) (r : Rule) (mid : Nat)
    (hwf : WF 0 n) (h : addRule Gen.tokenCap resolve n r mid = .ok n') : WF 0 n' :=
  addRule_WF hwf h

/-- a rule with nested additional bindings is an error. -/
theorem nested_additional_rejected (resolve) (n : Node) (mid : Nat) (b : Binding) (more : List (Binding × Bool)) :
    addAdditional Gen.tokenCap resolve mid n ((b, true) :: more) = .err "nested-rules" := by
  simp [addAdditional]

/-- **Every template of the documented grammar is lexed to its tokens** — `"/" Segments
[ ":" LITERAL ]` with segments `*`, `**`, literals and variables `{field.path}` /
`{field.path=sub/pattern}` (sub-patterns of `*`, `**`, literals: google.api.http forbids
nested variables) — whenever its tokens fit larking's token array (the regenerated
`Gen.tokenCap`). Literals are read as the code reads them: starting with a letter. -/
theorem grammar_templates_lex (t : Tmpl) (ht : t.Wf) (hcap : t.toks.length ≤ Gen.tokenCap) :
    lexTemplate Gen.tokenCap t.render = .ok t.toks :=
  lexTemplate_complete Gen.tokenCap t ht hcap

/-- … and a template that needs more tokens than the array holds is refused with an error,
not a crash (the other half of the token limit). -/
theorem grammar_templates_never_crash (t : Tmpl) (s : String) :
    lexTemplate Gen.tokenCap t.render ≠ .panic s := lexTemplate_no_panic Gen.tokenCap t.render s

/-- **Valid rules are accepted.** A rule whose bindings (primary and additional, not nested)
have templates of the documented grammar that fit the token array, variables whose field
paths resolve in the request type, and resolvable body / response_body selectors is accepted
by `addRule` on EVERY trie — the only other outcome is the duplicate-rule error raised when
one of its bindings ends where another method is already bound. (That the routes then lead
to the method is `route_complete` / `route_sound` over the well-formed trie,
`accepted_keeps_wellformed`.) -/
theorem grammar_rules_accepted (resolve : List Bytes → Option Nat) (n : Node) (r : Rule) (mid : Nat)
    (hp : ValidBinding Gen.tokenCap resolve r.primary)
    (ha : ∀ p ∈ r.additional, p.2 = false ∧ ValidBinding Gen.tokenCap resolve p.1) :
    (∃ n', addRule Gen.tokenCap resolve n r mid = .ok n') ∨
      addRule Gen.tokenCap resolve n r mid = .err "duplicate-rule" :=
  valid_rule_accepted hp ha n mid

/-- … and on the empty trie (nothing to conflict with) a single valid binding is accepted. -/
theorem grammar_binding_accepted_on_empty (resolve : List Bytes → Option Nat) (b : Binding) (mid : Nat)
    (hv : ValidBinding Gen.tokenCap resolve b) :
    ∃ n', addRule Gen.tokenCap resolve .empty ⟨b, []⟩ mid = .ok n' := by
  obtain ⟨n', h⟩ := valid_binding_accepted_on_empty hv mid
  exact ⟨n', by simp [addRule, h, addAdditional]⟩

-- non-vacuity: "/v/{a.b=s/*}:g" as a template of the grammar
private def pu (c : Nat) : Rune := ⟨[UInt8.ofNat c], c, false, false, false, false⟩
private def le (c : Nat) : Rune := ⟨[UInt8.ofNat c], c, true, true, true, true⟩
private def tmEx : Tmpl :=
  { slash := pu 47, first := .simple (.lit [le 118]),
    more := [(pu 47, .var { lbrace := pu 123, ident := [le 97],
                            dotted := [(⟨[46], 46, false, false, true, true⟩, [le 98])],
                            sub := some (pu 61, .lit [le 115], [(pu 47, .star (pu 42))]), rbrace := pu 125 })],
    verb := some (pu 58, [le 103]) }
example : lexTemplate Gen.tokenCap tmEx.render = .ok tmEx.toks ∧ tmEx.toks.length = 15 := by decide
example : tmEx.Wf := by
  refine ⟨by decide, ⟨⟨_, _, rfl, rfl⟩, by decide⟩, ?_, by decide, by decide, by decide⟩
  intro p hp
  simp only [tmEx, List.mem_singleton] at hp
  subst hp
  refine ⟨by decide, by decide, by decide, by decide, by decide, by decide,
    ⟨⟨_, _, rfl, rfl⟩, by decide⟩, ?_⟩
  intro q hq
  simp only [List.mem_singleton] at hq
  subst hq
  exact ⟨by decide, (by decide : Punct cStar (pu 42))⟩

end Larking.Props.C16

#print axioms Larking.Props.C16.translator_complete
#print axioms Larking.Props.C16.skeleton_unchanged
#print axioms Larking.Props.C16.lexTemplate_total
#print axioms Larking.Props.C16.lexPath_total
#print axioms Larking.Props.C16.conflict_rejected
#print axioms Larking.Props.C16.redeclare_noop
#print axioms Larking.Props.C16.star_and_verb_coexist
#print axioms Larking.Props.C16.nested_variable_rejected
#print axioms Larking.Props.C16.accepted_keeps_wellformed
#print axioms Larking.Props.C16.nested_additional_rejected
#print axioms Larking.Props.C16.grammar_templates_lex
#print axioms Larking.Props.C16.grammar_templates_never_crash
#print axioms Larking.Props.C16.grammar_rules_accepted
#print axioms Larking.Props.C16.grammar_binding_accepted_on_empty
#print axioms Larking.Props.C16.bad_selector_rejected_everywhere
#print axioms Larking.Props.C16.slot_first_accepts_a_bad_selector
