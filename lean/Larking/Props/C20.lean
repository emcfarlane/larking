import Larking.Gen.Skel
import Larking.Gen.Missing
import Larking.Expected.C20
import Larking.Lemmas.Mount
/-
  C20 — Server mount prefixes are transparent.  `Mount.table false true` is NewServer as
  written: one subtree pattern `prefix+"/"` with `http.StripPrefix(prefix, mux)` per mount
  (`"/"` with the bare mux for an empty prefix), next to every HTTPHandlerOption handler.
  Every statement and condition of NewServer / the two options / Mux.ServeHTTP is part of
  the regenerated tie.  net/http.ServeMux is modelled for the pattern shapes used (see
  Model/Mount) and is a parameter checked by the run.
-/
namespace Larking.Props.C20
open Larking.Mount

theorem translator_complete : Gen.missing = [] := by decide

theorem skeleton_unchanged :
    (Gen.Skel.conds_NewServer,
     Gen.Skel.stmts_NewServer,
     Gen.Skel.conds_HTTPHandlerOption,
     Gen.Skel.stmts_HTTPHandlerOption,
     Gen.Skel.conds_MuxHandleOption,
     Gen.Skel.stmts_MuxHandleOption,
     Gen.Skel.conds_Mux_ServeHTTP,
     Gen.Skel.stmts_Mux_ServeHTTP,
     Gen.Skel.conds_TLSCredsOption,
     Gen.Skel.stmts_TLSCredsOption)
  = (Expected.C20.conds_NewServer,
     Expected.C20.stmts_NewServer,
     Expected.C20.conds_HTTPHandlerOption,
     Expected.C20.stmts_HTTPHandlerOption,
     Expected.C20.conds_MuxHandleOption,
     Expected.C20.stmts_MuxHandleOption,
     Expected.C20.conds_Mux_ServeHTTP,
     Expected.C20.stmts_Mux_ServeHTTP,
     Expected.C20.conds_TLSCredsOption,
     Expected.C20.stmts_TLSCredsOption) := rfl

/-- the mux's entry for a mount pattern is in the table. -/
theorem mount_entry_mem (patterns extras : List Path) (p : Path) (hp : p ∈ patterns)
    (hne : (trimSlash p).length > 0) :
    (trimSlash p ++ ['/'], Target.mux (trimSlash p)) ∈ table false true patterns extras := by
  simp only [table, List.mem_append]
  right
  have hnil : patterns.isEmpty = false := by
    cases patterns with
    | nil => simp at hp
    | cons _ _ => rfl
  simp only [muxEntries, hnil, Bool.false_eq_true, if_false, List.mem_map]
  exact ⟨p, hp, by simp [hne]⟩

/-- **prefix transparency**: for every set of mounts and extra handlers, every mount pattern
`p` (written with or without a trailing slash) and every path `q` that begins with '/': if the
mount is the most specific registration for `prefix ++ q`, the mux serves the request and
sees exactly `q` — what the bare mux sees for `q`. -/
theorem prefix_transparent (patterns extras : List Path) (p : Path) (q : Path)
    (hp : p ∈ patterns) (hne : (trimSlash p).length > 0)
    (hbest : ∀ e ∈ table false true patterns extras, patMatches e.1 (trimSlash p ++ '/' :: q) = true →
      e = (trimSlash p ++ ['/'], Target.mux (trimSlash p)) ∨ e.1.length < (trimSlash p ++ ['/']).length) :
    serve (table false true patterns extras) (trimSlash p ++ '/' :: q) = .byMux ('/' :: q) := by
  have hm := mount_entry_mem patterns extras p hp hne
  have hmatch : patMatches (trimSlash p ++ ['/']) (trimSlash p ++ '/' :: q) = true := by
    simp [patMatches]
  have hpick := pick_unique_best _ _ _ hm hmatch hbest
  simp [serve, hpick]

/-- **nothing outside the mounts reaches the mux**: whenever the mux serves a request, the
path is a mount prefix followed by what the mux sees (or the mux is mounted at the root). -/
theorem mux_only_under_mounts (patterns extras : List Path) (path seen : Path)
    (h : serve (table false true patterns extras) path = .byMux seen) :
    ∃ strip, (strip = [] ∨ ∃ p ∈ patterns, strip = trimSlash p) ∧ path = strip ++ seen := by
  unfold serve at h
  split at h
  · cases h
  · cases h
  · rename_i pat strip hp
    split at h
    · rename_i hpre
      cases h
      refine ⟨strip, ?_, (List.prefix_iff_eq_append.mp (List.isPrefixOf_iff_prefix.mp hpre)).symm⟩
      have hmem := (pick_some _ _ _ hp).1
      simp only [table, List.mem_append, extraEntries, muxEntries, Bool.false_eq_true, ↓reduceIte, List.mem_map] at hmem
      -- extras never target the mux
      rcases hmem with ⟨_, _, hx⟩ | ⟨pattern, hpin, hx⟩
      · cases hx
      · split at hx <;> cases hx
        · rename_i hlen
          refine .inr ⟨pattern, ?_, rfl⟩
          cases hpe : patterns.isEmpty with
          | false => simpa [hpe] using hpin
          | true =>
            -- the default pattern "/" trims to the empty prefix
            simp only [hpe, if_true, List.mem_singleton] at hpin
            subst hpin
            exact absurd hlen (by decide)
        · exact .inl rfl
    · cases h

/-- a path no registration matches gets ServeMux's own 404. -/
theorem unmatched_not_served (patterns extras : List Path) (path : Path)
    (h : ∀ e ∈ table false true patterns extras, patMatches e.1 path = false) :
    serve (table false true patterns extras) path = .notFound := by
  simp [serve, (pick_eq_none_iff _ _).mpr h]

/-- **extra handlers keep their patterns**: every HTTPHandlerOption is registered, and a path
for which it is the most specific registration goes to it, not to the mux. -/
theorem extra_keeps_pattern (patterns extras : List Path) (i : Nat) (e : Path) (path : Path)
    (hi : extras[i]? = some e) (hmatch : patMatches e path = true)
    (hbest : ∀ x ∈ table false true patterns extras, patMatches x.1 path = true →
      x = (e, Target.extra i) ∨ x.1.length < e.length) :
    serve (table false true patterns extras) path = .byExtra i := by
  have hmem : (e, Target.extra i) ∈ table false true patterns extras := by
    simp only [table, List.mem_append]
    left
    simp only [extraEntries, if_true, List.mem_map]
    exact ⟨(e, i), List.mem_zipIdx_iff_getElem?.mpr hi, rfl⟩
  simp [serve, pick_unique_best _ _ _ hmem hmatch hbest]

/-- contrast (seeded): stripping the pattern as written removes the separating slash of a
mount given with a trailing slash — the mux no longer sees a rooted path. -/
theorem strip_raw_pattern_breaks :
    serve (table true true ["/api/".toList] []) "/api/v1/x".toList = .byMux "v1/x".toList ∧
    serve (table false true ["/api/".toList] []) "/api/v1/x".toList = .byMux "/v1/x".toList := by decide

/-- contrast (seeded): a fresh ServeMux per HTTPHandlerOption loses every handler but the last. -/
theorem fresh_servemux_loses_handlers :
    serve (table false false ["/api".toList] ["/a/".toList, "/b/".toList]) "/a/x".toList = .notFound ∧
    serve (table false true ["/api".toList] ["/a/".toList, "/b/".toList]) "/a/x".toList = .byExtra 0 := by decide

-- two mounts and an extra handler below one of them
example : serve (table false true ["/api".toList, "/v2/".toList] ["/api/special".toList]) "/api/pkg.S/M".toList
    = .byMux "/pkg.S/M".toList := by decide
example : serve (table false true ["/api".toList, "/v2/".toList] ["/api/special".toList]) "/api/special".toList
    = .byExtra 0 := by decide
example : serve (table false true ["/api".toList] []) "/other/x".toList = .notFound := by decide

end Larking.Props.C20

#print axioms Larking.Props.C20.translator_complete
#print axioms Larking.Props.C20.skeleton_unchanged
#print axioms Larking.Props.C20.mount_entry_mem
#print axioms Larking.Props.C20.prefix_transparent
#print axioms Larking.Props.C20.mux_only_under_mounts
#print axioms Larking.Props.C20.unmatched_not_served
#print axioms Larking.Props.C20.extra_keeps_pattern
#print axioms Larking.Props.C20.strip_raw_pattern_breaks
#print axioms Larking.Props.C20.fresh_servemux_loses_handlers
