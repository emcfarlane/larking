import Larking.Model.Metadata
import Larking.Lemmas.Base64
namespace Larking.Metadata
open Larking.Base64

theorem decodeBin_encode (pad : Bool) (b : Bytes) : decodeBin true (encode false pad b) = some b := by
  have : ∀ v, decodeBin true v = decode false (v.length % 4 == 0) v := fun v => by
    unfold decodeBin; cases v.length % 4 == 0 <;> rfl
  rw [this]; exact decode_by_len false pad b

theorem lowerByte_toNat (c : UInt8) :
    (lowerByte c).toNat = if 65 ≤ c.toNat ∧ c.toNat ≤ 90 then c.toNat + 32 else c.toNat := by
  unfold lowerByte
  split
  · rw [UInt8.toNat_add]; simp; omega
  · rfl

theorem upperByte_toNat (c : UInt8) :
    (upperByte c).toNat = if 97 ≤ c.toNat ∧ c.toNat ≤ 122 then c.toNat - 32 else c.toNat := by
  unfold upperByte
  split
  · rw [UInt8.toNat_sub_of_le] <;> simp [UInt8.le_iff_toNat_le] <;> omega
  · rfl

theorem lowerByte_idem (c : UInt8) : lowerByte (lowerByte c) = lowerByte c := by
  apply UInt8.toNat_inj.mp
  rw [lowerByte_toNat, lowerByte_toNat]
  by_cases h : 65 ≤ c.toNat ∧ c.toNat ≤ 90
  · rw [if_pos h, if_neg (by omega)]
  · rw [if_neg h, if_neg h]

theorem lower_upper (c : UInt8) : lowerByte (upperByte c) = lowerByte c := by
  apply UInt8.toNat_inj.mp
  rw [lowerByte_toNat, lowerByte_toNat, upperByte_toNat]
  by_cases h : 97 ≤ c.toNat ∧ c.toNat ≤ 122
  · rw [if_pos h, if_pos ⟨Nat.le_sub_of_add_le h.1, Nat.sub_le_of_le_add h.2⟩, if_neg (by omega)]
    exact Nat.sub_add_cancel (Nat.le_trans (by decide) h.1)
  · rw [if_neg h]

theorem lower_canonAux (up : Bool) (k : Bytes) : lower (canonAux up k) = lower k := by
  induction k generalizing up with
  | nil => simp [canonAux, lower]
  | cons c rest ih =>
    simp only [canonAux, lower, List.map_cons] at ih ⊢
    rw [ih]
    cases up <;> simp [lower_upper, lowerByte_idem]

theorem lower_canonical (k : Bytes) : lower (canonical k) = lower k := lower_canonAux true k

theorem outgoingEntry_eq (reserved : List Bytes) (kv : Bytes × List Bytes) :
    outgoingEntry reserved kv = if reserved.contains kv.1 then none
      else some (canonical kv.1, if hasBinSuffix kv.1 then kv.2.map encodeBin else kv.2) := by
  unfold outgoingEntry
  cases reserved.contains kv.1 <;> cases hasBinSuffix kv.1 <;> rfl

theorem mem_outgoing {reserved : List Bytes} {md : MD} {e : Bytes × List Bytes} :
    e ∈ outgoing reserved md ↔ ∃ kv ∈ md, reserved.contains kv.1 = false ∧
      e = (canonical kv.1, if hasBinSuffix kv.1 then kv.2.map encodeBin else kv.2) := by
  simp only [outgoing, List.mem_filterMap, outgoingEntry_eq]
  constructor
  · rintro ⟨kv, hkv, h⟩
    cases hr : reserved.contains kv.1 <;> rw [hr] at h <;> cases h
    exact ⟨kv, hkv, hr, rfl⟩
  · rintro ⟨kv, hkv, hr, rfl⟩
    exact ⟨kv, hkv, by rw [hr]; rfl⟩

theorem delivered_prefixed (announced : List Bytes) (es : MD) :
    deliveredTrailers announced (es.map fun kv => (trailerPrefix ++ kv.1, kv.2)) = es := by
  simp only [deliveredTrailers, List.filterMap_map, Function.comp_def, List.isPrefixOf_iff_prefix,
    List.prefix_append, if_true, List.drop_left']
  exact List.filterMap_some

end Larking.Metadata
