import Larking.Lemmas.Reader
import Larking.Lemmas.Varint
namespace Larking.Codec

/-- every round adds at least one (`4 ≤ nc`), so `fuel` rounds from `nc` get past `nc + fuel`. -/
theorem growLoop_ge (want fuel nc : Nat) (h4 : 4 ≤ nc) (hf : want ≤ nc + fuel) :
    want ≤ growLoop want fuel nc := by
  fun_induction growLoop want fuel nc with
  | case1 nc => exact hf
  | case2 fuel nc h ih => exact ih (Nat.le_trans h4 (Nat.le_add_right _ _)) (by omega)
  | case3 fuel nc h => omega

theorem growcap_ge (old want : Nat) : want ≤ growcap old want := by
  fun_cases growcap old want
  · exact Nat.le_refl _
  · omega
  · exact growLoop_ge want want old (by omega) (Nat.le_add_left _ _)

theorem append_take_of_le {α} (X E m rest : List α) (h : X ++ E = m ++ rest) (hl : m.length ≤ X.length) :
    X.take m.length = m ∧ X.drop m.length ++ E = rest :=
  ⟨by rw [← List.take_append_of_le_length hl, h, List.take_left],
    by rw [← List.drop_append_of_le_length hl, h, List.drop_left]⟩

/-- one statement for the whole prefix (`tl` starts with its terminator: `scanPrefix_varint`) and the cut
one (`tl = []`: `scanPrefix_varint_cut`). -/
theorem scanPrefix_spec {pre tl : Bytes} (hpre : ∀ c ∈ pre, 128 ≤ c.toNat)
    (htl : ∀ c ∈ tl.head?, c.toNat < 128) (fuel : Nat) {i : Nat} {e : Env} {b : Buf}
    (hi : i ≤ pre.length) (hf : pre.length < i + fuel) (hW : b.data ++ e.data = pre ++ tl) :
    ∃ b1 e1, b1.data ++ e1.data = pre ++ tl ∧
      match tl with
      | [] => scanPrefix fuel i e b = (b1, some .eof, e1) ∧ e1.data = []
      | _ :: _ => scanPrefix fuel i e b = (b1, none, e1) ∧ pre.length < b1.data.length := by
  induction fuel generalizing i e b with
  | zero => omega
  | succ fuel ih =>
    unfold scanPrefix
    rcases Nat.lt_or_eq_of_le hi with hip | rfl
    · obtain ⟨b1, e1, hfill, hc, -, hget⟩ := fill_ok hW i (by rw [List.length_append]; omega)
      rw [List.getElem?_append_left hip, List.getElem?_eq_getElem hip] at hget
      simp only [hfill, hget, Nat.not_lt.2 (hpre _ (List.getElem_mem hip)), if_false]
      exact ih hip (by omega) hc
    · cases tl with
      | nil =>
        obtain ⟨b1, e1, hfill, hb1, he1⟩ := fill_eof hW pre.length (by simp)
        exact ⟨b1, e1, by rw [he1, List.append_nil, hb1], by rw [hfill], he1⟩
      | cons last tl =>
        obtain ⟨b1, e1, hfill, hc, hlt, hget⟩ := fill_ok hW pre.length (by simp)
        rw [List.getElem?_append_right (Nat.le_refl _), Nat.sub_self] at hget
        exact ⟨b1, e1, hc, by simp only [hfill, hget, List.getElem?_cons_zero, htl last rfl, if_true], hlt⟩

theorem scanPrefix_varint (e : Env) (b : Buf) (size : Nat) (tail : Bytes) (hsz : size < 2 ^ 64)
    (hW : b.data ++ e.data = putVarint size ++ tail) :
    ∃ b1 e1, scanPrefix 10 0 e b = (b1, none, e1) ∧
      getVarint b1.data = some (size, (putVarint size).length) ∧
      b1.data.drop (putVarint size).length ++ e1.data = tail := by
  obtain ⟨pre, last, hP, hlast, hpre, hplen⟩ := putVarint_shape size hsz
  obtain ⟨b1, e1, hc, hscan, hlen⟩ := scanPrefix_spec (tl := last :: tail) hpre
    (fun c hc => by cases hc; exact hlast) 10 (Nat.zero_le _) (by omega) (by rw [hW, hP]; simp)
  have hPlen : (putVarint size).length = pre.length + 1 := by rw [hP]; simp
  obtain ⟨ht, hd⟩ := append_take_of_le b1.data e1.data (putVarint size) tail
    (by rw [hc, hP]; simp) (by omega)
  refine ⟨b1, e1, hscan, ?_, hd⟩
  rw [← List.take_append_drop (putVarint size).length b1.data, ht, getVarint_put _ hsz]

theorem scanPrefix_varint_cut (e : Env) (b : Buf) (size k : Nat) (hsz : size < 2 ^ 64)
    (hk : k < (putVarint size).length) (hW : b.data ++ e.data = (putVarint size).take k) :
    ∃ b1 e1, scanPrefix 10 0 e b = (b1, some .eof, e1) ∧ b1.data = (putVarint size).take k := by
  obtain ⟨pre, last, hP, hlast, hpre, hplen⟩ := putVarint_shape size hsz
  have hk' : k ≤ pre.length := by rw [hP] at hk; simp at hk; omega
  have htk : (putVarint size).take k = pre.take k := by
    rw [hP, List.take_append_of_le_length hk']
  obtain ⟨b1, e1, hc, hscan, he1⟩ := scanPrefix_spec (pre := pre.take k) (tl := [])
    (fun c hc => hpre c (List.mem_of_mem_take hc)) (by simp) 10 (Nat.zero_le _)
    (Nat.lt_of_le_of_lt (List.length_take_le' ..) hplen) (by rw [hW, htk]; simp)
  exact ⟨b1, e1, hscan, by rw [htk]; simpa [he1] using hc⟩

/-- the reallocation is always large enough (`growcap_ge`), so the panic branch is never taken. -/
theorem protoReadNext_body (e : Env) (b : Buf) (limit : Nat) {b1 : Buf} {e1 : Env} {size k : Nat}
    (hs : scanPrefix 10 0 e b = (b1, none, e1)) (hg : getVarint b1.data = some (size, k))
    (hok : ¬ (size > maxInt ∨ size > limit)) :
    (size ≤ (b1.data.drop k ++ e1.data).length →
      ∃ dst e', protoReadNext e b limit = (.ok ⟨dst, size, none⟩, e') ∧
        dst.data ++ e'.data = b1.data.drop k ++ e1.data ∧ size ≤ dst.data.length) ∧
    ((b1.data.drop k ++ e1.data).length < size →
      ∃ dst e', protoReadNext e b limit = (.ok ⟨dst, 0, some .unexpectedEOF⟩, e')) := by
  unfold protoReadNext
  simp only [hs, hg, hok, if_false]
  generalize b1.data.drop k = X
  by_cases hshort : X.length < size
  · simp only [hshort, if_true]
    generalize hb3 : (ite (Buf.cap _ < size) _ _ : Buf) = b3
    have hb3d : b3.data = X := by rw [← hb3]; split <;> rfl
    have hb3c : size ≤ b3.cap := by
      rw [← hb3]
      split
      · exact Nat.le_trans (growcap_ge (X.length + b1.spare) size) (by simp only [Buf.cap]; omega)
      · exact Nat.le_of_not_lt ‹_›
    simp only [gt_iff_lt, Nat.not_lt.2 hb3c, if_false]
    have hW : b3.data ++ e1.data = X ++ e1.data := by rw [hb3d]
    constructor
    · intro hlen
      obtain ⟨b4, e2, hrf, hc, hl⟩ := readFull_ok hW size (by rw [hb3d]; exact Nat.le_of_lt hshort) hlen
      rw [hrf]
      exact ⟨b4, e2, rfl, hc, Nat.le_of_eq hl.symm⟩
    · intro hlen
      obtain ⟨b4, e2, hrf⟩ := readFull_short hW size hlen
      rw [hrf]
      exact ⟨_, _, rfl⟩
  · simp only [hshort, if_false]
    exact ⟨fun _ => ⟨_, _, rfl, rfl, Nat.le_of_not_lt hshort⟩,
      fun h => by rw [List.length_append] at h; omega⟩

theorem proto_frame (e : Env) (b : Buf) (limit : Nat) (m rest : Bytes)
    (hW : b.data ++ e.data = protoWriteNext m ++ rest)
    (hlim : m.length ≤ limit) (hint : m.length ≤ maxInt) :
    ∃ dst e', protoReadNext e b limit = (.ok ⟨dst, m.length, none⟩, e') ∧
      dst.data.take m.length = m ∧ dst.data.drop m.length ++ e'.data = rest := by
  obtain ⟨b1, e1, hs, hg, hX⟩ := scanPrefix_varint e b m.length (m ++ rest)
    (Nat.lt_of_le_of_lt hint (by decide)) (by rw [hW, protoWriteNext, List.append_assoc])
  obtain ⟨dst, e', h, hc, hl⟩ := (protoReadNext_body e b limit hs hg (by omega)).1
    (by rw [hX]; simp)
  exact ⟨dst, e', h, append_take_of_le dst.data e'.data m rest (hc.trans hX) hl⟩

theorem proto_over_limit (e : Env) (b : Buf) (limit size : Nat) (tail : Bytes)
    (hsz : size < 2 ^ 64) (hW : b.data ++ e.data = putVarint size ++ tail)
    (hbig : size > limit ∨ size > maxInt) :
    ∃ dst e', protoReadNext e b limit = (.ok ⟨dst, 0, some .tooLarge⟩, e') := by
  obtain ⟨b1, e1, hs, hg, -⟩ := scanPrefix_varint e b size tail hsz hW
  unfold protoReadNext
  simp only [hs, hg, hbig.symm, if_true]
  exact ⟨_, _, rfl⟩

theorem proto_safe (e : Env) (b : Buf) (limit : Nat) :
    ∃ r e', protoReadNext e b limit = (.ok r, e') ∧ r.n ≤ r.dst.data.length ∧
      (r.err ≠ none → r.n = 0) ∧ (r.err = none → r.n ≤ limit) := by
  have herr : ∀ dst err e', protoReadNext e b limit = (.ok ⟨dst, 0, some err⟩, e') →
      ∃ r e', protoReadNext e b limit = (.ok r, e') ∧ r.n ≤ r.dst.data.length ∧
        (r.err ≠ none → r.n = 0) ∧ (r.err = none → r.n ≤ limit) :=
    fun _ _ _ h => ⟨_, _, h, Nat.zero_le _, fun _ => rfl, fun _ => Nat.zero_le _⟩
  rcases hs : scanPrefix 10 0 e b with ⟨b1, res, e1⟩
  cases res with
  | some err => exact herr _ _ _ (by simp only [protoReadNext, hs]; rfl)
  | none =>
    cases hg : getVarint b1.data with
    | none => exact herr _ _ _ (by simp only [protoReadNext, hs, hg]; rfl)
    | some p =>
      obtain ⟨size, k⟩ := p
      by_cases hbig : size > maxInt ∨ size > limit
      · exact herr _ _ _ (by simp only [protoReadNext, hs, hg, hbig, if_true]; rfl)
      · have hbody := protoReadNext_body e b limit hs hg hbig
        by_cases hlen : size ≤ (b1.data.drop k ++ e1.data).length
        · obtain ⟨dst, e', h, -, hl⟩ := hbody.1 hlen
          exact ⟨_, _, h, hl, fun h => absurd rfl h, fun _ => by show size ≤ limit; omega⟩
        · obtain ⟨dst, e', h⟩ := hbody.2 (Nat.lt_of_not_le hlen)
          exact herr _ _ _ h

theorem proto_empty (e : Env) (b : Buf) (limit : Nat) (h : b.data ++ e.data = []) :
    ∃ dst e', protoReadNext e b limit = (.ok ⟨dst, 0, some .eof⟩, e') ∧ dst.data = [] := by
  obtain ⟨b1, e1, hfill, hb1, -⟩ := fill_eof h 0 (Nat.le_refl _)
  exact ⟨b1, e1, by simp only [protoReadNext, scanPrefix, hfill], hb1⟩

/-- where the error is io.EOF (the stream ended inside the prefix) the buffer is not empty, which is how
`readMsg` tells it from a clean end. -/
theorem proto_truncated (e : Env) (b : Buf) (limit : Nat) (m : Bytes) (k : Nat)
    (hk1 : 0 < k) (hk2 : k < (protoWriteNext m).length)
    (hW : b.data ++ e.data = (protoWriteNext m).take k)
    (hlim : m.length ≤ limit) (hint : m.length ≤ maxInt) :
    ∃ dst err e', protoReadNext e b limit = (.ok ⟨dst, 0, some err⟩, e') ∧
      (err = .eof → 0 < dst.data.length) := by
  have hv : m.length < 2 ^ 64 := Nat.lt_of_le_of_lt hint (by decide)
  rw [protoWriteNext, List.length_append] at hk2
  by_cases hin : k < (putVarint m.length).length
  · rw [protoWriteNext, List.take_append_of_le_length (Nat.le_of_lt hin)] at hW
    obtain ⟨b1, e1, hs, hb1⟩ := scanPrefix_varint_cut e b m.length k hv hin hW
    refine ⟨b1, .eof, e1, by simp only [protoReadNext, hs], fun _ => ?_⟩
    rw [hb1, List.length_take]; exact Nat.lt_min.2 ⟨hk1, Nat.lt_trans hk1 hin⟩
  · rw [protoWriteNext, List.take_append, List.take_of_length_le (Nat.le_of_not_lt hin)] at hW
    obtain ⟨b1, e1, hs, hg, hX⟩ := scanPrefix_varint e b m.length _ hv hW
    obtain ⟨dst, e', h⟩ := (protoReadNext_body e b limit hs hg (by omega)).2
      (by rw [hX, List.length_take]; exact Nat.lt_of_le_of_lt (Nat.min_le_left _ _) (by omega))
    exact ⟨dst, _, e', h, nofun⟩

/-- reading a whole stream by repeated `ReadNext` calls, carrying `dst[n:]` over (with any
spare capacity) to the next call. -/
def protoSeq (limit : Nat) : Nat → List Nat → Env → Buf → List Bytes × Option RErr
  | 0, _, _, _ => ([], none)
  | k + 1, spares, e, b =>
    match protoReadNext e b limit with
    | (.ok ⟨dst, n, none⟩, e') =>
      let r := protoSeq limit k spares.tail e' ⟨dst.data.drop n, spares.headD 0⟩
      (dst.data.take n :: r.1, r.2)
    | (.ok ⟨_, _, some err⟩, _) => ([], some err)
    | _ => ([], some .other)

theorem proto_sequence (limit : Nat) (ms : List Bytes) (spares : List Nat) (e : Env) (b : Buf)
    (hall : ∀ m ∈ ms, m.length ≤ limit ∧ m.length ≤ maxInt)
    (hW : b.data ++ e.data = (ms.map protoWriteNext).flatten) :
    protoSeq limit (ms.length + 1) spares e b = (ms, some .eof) := by
  induction ms generalizing spares e b with
  | nil =>
    obtain ⟨dst, e', h, _⟩ := proto_empty e b limit hW
    simp [protoSeq, h]
  | cons m ms ih =>
    have hm := hall m (by simp)
    obtain ⟨dst, e', h, ht, hd⟩ := proto_frame e b limit m ((ms.map protoWriteNext).flatten)
      hW hm.1 hm.2
    have := ih spares.tail e' ⟨dst.data.drop m.length, spares.headD 0⟩
      (fun x hx => hall x (by simp [hx])) hd
    simp only [List.length_cons, protoSeq, h, this, ht]

end Larking.Codec
