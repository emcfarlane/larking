import Larking.Model.Reader
namespace Larking

theorem read_eq (e : Env) (room : Nat) :
    (e.read room).1 = e.data.take (e.chunk room) ∧ (e.read room).2.2.data = e.data.drop (e.chunk room) := by
  unfold Env.read
  split
  · rename_i h; simp [List.isEmpty_iff.1 h]
  · exact ⟨rfl, rfl⟩

theorem read_conserve (e : Env) (room : Nat) :
    (e.read room).1 ++ (e.read room).2.2.data = e.data := by
  rw [(read_eq e room).1, (read_eq e room).2, List.take_append_drop]

theorem read_len_le (e : Env) (room : Nat) : (e.read room).1.length ≤ room := by
  rw [(read_eq e room).1, List.length_take]
  exact Nat.le_trans (Nat.min_le_left _ _) (Nat.min_le_left _ _)

theorem read_eof_flag (e : Env) (room : Nat) (h : (e.read room).2.1 = true) :
    (e.read room).2.2.data = [] := by
  rw [(read_eq e room).2, List.drop_eq_nil_iff]
  unfold Env.read at h
  split at h
  · rename_i h'; simp [List.isEmpty_iff.1 h']
  · simp only [Bool.and_eq_true, beq_iff_eq] at h; exact Nat.le_of_eq h.2.symm

theorem growIfFull_data (e : Env) (b : Buf) : (growIfFull e b).1.data = b.data := by
  unfold growIfFull; split <;> rfl
theorem growIfFull_env (e : Env) (b : Buf) : (growIfFull e b).2 = e := by
  unfold growIfFull; split <;> rfl

theorem readMore_data (e : Env) (b : Buf) :
    (readMore e b).1.data = b.data ++ (e.read (growIfFull e b).1.spare).1 := by
  simp [readMore, growIfFull_data, growIfFull_env]

theorem readMore_env (e : Env) (b : Buf) :
    (readMore e b).2.2 = (e.read (growIfFull e b).1.spare).2.2 := by
  simp [readMore, growIfFull_env]

theorem readMore_flag (e : Env) (b : Buf) :
    (readMore e b).2.1 = (e.read (growIfFull e b).1.spare).2.1 := by
  simp [readMore, growIfFull_env]

theorem readMore_conserve (e : Env) (b : Buf) :
    (readMore e b).1.data ++ (readMore e b).2.2.data = b.data ++ e.data := by
  rw [readMore_data, readMore_env, List.append_assoc, read_conserve]

theorem readMore_empty (e : Env) (b : Buf) (h : e.data.isEmpty = true) :
    (readMore e b).1.data = b.data ∧ (readMore e b).2.2.data = [] := by
  have he : e.data = [] := by simpa using h
  rw [readMore_data, readMore_env]
  simp [Env.read, he]

theorem readMore_eof_flag (e : Env) (b : Buf) (h : (readMore e b).2.1 = true) :
    (readMore e b).2.2.data = [] := by
  rw [readMore_flag] at h; rw [readMore_env]; exact read_eof_flag _ _ h

-- Below, `readMore` is used only through the lemmas above. A `fun_induction` case holds `let r := readMore e b`, and
-- the unifier, comparing `r.1` with a lemma's `(readMore e b).1`, would first unfold `readMore`: slow to check.
attribute [local irreducible] readMore

/-- The read loops are decided by the pending stream `W = b.data ++ e.data` alone, whatever the
schedule: every read keeps it. -/
theorem fill_ok {e : Env} {b : Buf} {W : Bytes} (hW : b.data ++ e.data = W) (i : Nat) (h : i < W.length) :
    ∃ b1 e1, fill e b i = (b1, none, e1) ∧ b1.data ++ e1.data = W ∧ i < b1.data.length ∧
      b1.data[i]? = W[i]? := by
  fun_induction fill e b i with
  | case1 e b hi => exact ⟨b, e, rfl, hW, hi, by rw [← hW, List.getElem?_append_left hi]⟩
  | case2 e b hi hem r =>
    rw [← hW, List.isEmpty_iff.1 hem, List.append_nil] at h
    exact absurd h hi
  | case3 e b hi hne r ih => exact ih ((readMore_conserve e b).trans hW)

theorem fill_eof {e : Env} {b : Buf} {W : Bytes} (hW : b.data ++ e.data = W) (i : Nat) (h : W.length ≤ i) :
    ∃ b1 e1, fill e b i = (b1, some .eof, e1) ∧ b1.data = W ∧ e1.data = [] := by
  fun_induction fill e b i with
  | case1 e b hi => rw [← hW, List.length_append] at h; omega
  | case2 e b hi hem r =>
    rw [List.isEmpty_iff.1 hem, List.append_nil] at hW
    exact ⟨_, _, rfl, (readMore_empty e b hem).1.trans hW, (readMore_empty e b hem).2⟩
  | case3 e b hi hne r ih => exact ih ((readMore_conserve e b).trans hW)

theorem readFull_ok {e : Env} {b : Buf} {W : Bytes} (hW : b.data ++ e.data = W) (n : Nat)
    (hb : b.data.length ≤ n) (h : n ≤ W.length) :
    ∃ b1 e1, readFull e b n = (b1, none, e1) ∧ b1.data ++ e1.data = W ∧ b1.data.length = n := by
  fun_induction readFull e b n with
  | case1 e b hn => exact ⟨b, e, rfl, hW, Nat.le_antisymm hb hn⟩
  | case2 e b hn hem =>
    rw [← hW, List.isEmpty_iff.1 hem, List.append_nil] at h
    exact absurd h hn
  | case3 e b hn hne r ih =>
    have hl : r.1.length ≤ n - b.data.length := read_len_le e _
    exact ih (by rw [List.append_assoc, read_conserve]; exact hW)
      (by rw [List.length_append]; omega)

theorem readFull_short {e : Env} {b : Buf} {W : Bytes} (hW : b.data ++ e.data = W) (n : Nat)
    (h : W.length < n) : ∃ b1 e1, readFull e b n = (b1, some .unexpectedEOF, e1) := by
  fun_induction readFull e b n with
  | case1 e b hn => rw [← hW, List.length_append] at h; omega
  | case2 e b hn hem => exact ⟨_, _, rfl⟩
  | case3 e b hn hne r ih => exact ih (by rw [List.append_assoc, read_conserve]; exact hW)

end Larking
