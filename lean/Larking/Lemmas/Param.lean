import Larking.Model.Param
import Larking.Lemmas.Base64
namespace Larking.Param

theorem get_put_same (m : Msg) (fp : Nat) (v : List Bytes) : (m.put fp v).get fp = v := by
  fun_induction Msg.put m fp v <;> simp [Msg.get, *]

theorem get_put_other (m : Msg) {fp fp2 : Nat} (v : List Bytes) (hne : fp ≠ fp2) :
    (m.put fp v).get fp2 = m.get fp2 := by
  fun_induction Msg.put m fp v <;> simp_all [Msg.get]

theorem get_setOne (m : Msg) (p : P) (fp : Nat) :
    (setOne m p).get fp =
      if p.fp = fp then (if p.repeated then m.get fp ++ [p.val] else [p.val]) else m.get fp := by
  unfold setOne
  by_cases h : p.fp = fp
  · rw [if_pos h, ← h]; cases p.repeated <;> exact get_put_same ..
  · rw [if_neg h]; cases p.repeated <;> exact get_put_other _ _ h

theorem setAll_cons (m : Msg) (p : P) (ps : List P) : setAll m (p :: ps) = setAll (setOne m p) ps := rfl

theorem setAll_append (m : Msg) (a b : List P) : setAll m (a ++ b) = setAll (setAll m a) b :=
  List.foldl_append ..

theorem setAll_other (ps : List P) (m : Msg) (fp : Nat) (h : ∀ q ∈ ps, q.fp ≠ fp) :
    (setAll m ps).get fp = m.get fp :=
  List.foldlRecOn (motive := fun m' => m'.get fp = m.get fp) ps setOne rfl
    fun m' hm q hq => by rw [get_setOne, if_neg (h q hq), hm]

theorem last_write_wins (m : Msg) (pre post : List P) (p : P) (hs : p.repeated = false)
    (hpost : ∀ q ∈ post, q.fp ≠ p.fp) : (setAll m (pre ++ p :: post)).get p.fp = [p.val] := by
  rw [setAll_append, setAll_cons, setAll_other post _ _ hpost, get_setOne, if_pos rfl, hs]; rfl

theorem repeated_appends (ps : List P) (m : Msg) (fp : Nat)
    (h : ∀ p ∈ ps, p.fp = fp → p.repeated = true) :
    (setAll m ps).get fp = m.get fp ++ ((ps.filter (fun p => p.fp == fp)).map (·.val)) := by
  induction ps generalizing m with
  | nil => simp [setAll]
  | cons q rest ih =>
    rw [setAll_cons, ih _ fun x hx => h x (List.mem_cons_of_mem _ hx), get_setOne, List.filter_cons]
    by_cases hq : q.fp = fp
    · simp [hq, h q List.mem_cons_self hq]
    · simp [hq]

theorem digitsVal_append (a b : Bytes) :
    digitsVal (a ++ b) = digitsVal a * 10 ^ b.length + digitsVal b := by
  simp only [digitsVal, List.foldl_append]; exact foldl_digits b _

theorem digit_spec {d : Nat} (h : d < 10) :
    isDigit (UInt8.ofNat (48 + d)) = true ∧ digitsVal [UInt8.ofNat (48 + d)] = d := by
  rw [isDigit, digitsVal, List.foldl_cons, List.foldl_nil, toNat_ofNat_of_lt (by omega : 48 + d < 256),
    Nat.zero_mul, Nat.zero_add, Nat.add_sub_cancel_left]
  exact ⟨by simp; omega, rfl⟩

theorem isNatLit_singleton {c : UInt8} (hc : isDigit c = true) : isNatLit [c] = true := by
  simp [isNatLit, hc]

theorem isNatLit_snoc {ds : Bytes} {c : UInt8} (h : isNatLit ds = true) (h0 : digitsVal ds ≠ 0)
    (hc : isDigit c = true) : isNatLit (ds ++ [c]) = true := by
  cases ds with
  | nil => cases h
  | cons d r =>
    -- the head is not '0': otherwise the literal is "0" itself, whose value is 0
    have hd : d ≠ 48 := by
      rintro rfl
      cases r with
      | nil => exact h0 rfl
      | cons => simp [isNatLit] at h
    simpa [isNatLit, hd, hc] using h

theorem printNatAux_spec (fuel n : Nat) (acc : Bytes) (h : n < fuel) :
    ∃ ds, printNatAux fuel n acc = ds ++ acc ∧ isNatLit ds = true ∧ digitsVal ds = n := by
  fun_induction printNatAux fuel n acc with
  | case1 => cases h
  | case2 fuel n acc acc' hlt =>
    obtain ⟨hdig, hval⟩ := digit_spec (Nat.mod_lt n (by decide))
    exact ⟨[_], rfl, isNatLit_singleton hdig, hval.trans (Nat.mod_eq_of_lt hlt)⟩
  | case3 fuel n acc acc' hlt ih =>
    obtain ⟨ds, hds, hlit, hds_val⟩ := ih (Nat.div_lt_of_lt_mul (by omega))
    obtain ⟨hdig, hval⟩ := digit_spec (Nat.mod_lt n (by decide))
    refine ⟨ds ++ [_], by rw [hds, List.append_assoc]; rfl, isNatLit_snoc hlit
      (hds_val ▸ Nat.ne_of_gt (Nat.div_pos (Nat.not_lt.mp hlt) (by decide))) hdig, ?_⟩
    rw [digitsVal_append, hds_val, hval, List.length_singleton, Nat.pow_one, Nat.div_add_mod']

theorem printNat_spec (n : Nat) : isNatLit (printNat n) = true ∧ digitsVal (printNat n) = n := by
  obtain ⟨ds, hds, h⟩ := printNatAux_spec (n + 1) n [] (Nat.lt_succ_self n)
  rw [printNat, hds, List.append_nil]; exact h

theorem trimLeft_id (l : Bytes) (h : ∀ c ∈ l, isWS c = false) : trimLeft l = l := by
  cases l with
  | nil => rfl
  | cons c rest => simp [trimLeft, h c List.mem_cons_self]

theorem trimWS_id (l : Bytes) (h : ∀ c ∈ l, isWS c = false) : trimWS l = l := by
  unfold trimWS
  rw [trimLeft_id l h, trimLeft_id l.reverse fun c hc => h c (List.mem_reverse.mp hc),
    List.reverse_reverse]

theorem digit_not_ws (c : UInt8) (h : isDigit c = true) : isWS c = false :=
  Bool.eq_false_iff.mpr fun hw => by
    simp only [isWS, Bool.or_eq_true, beq_iff_eq] at hw
    rcases hw with ((rfl | rfl) | rfl) | rfl <;> cases h

theorem splitSign_neg (r : Bytes) : splitSign (45 :: r) = (true, r) := rfl
theorem splitSign_pos (a : UInt8) (r : Bytes) (h : a ≠ 45) : splitSign (a :: r) = (false, a :: r) := by
  unfold splitSign
  split
  · rename_i r' heq; injection heq with h1 _; exact absurd h1 h
  · rfl
theorem splitSign_spec (core : Bytes) :
    core = (if (splitSign core).1 then 45 :: (splitSign core).2 else (splitSign core).2) := by
  fun_cases splitSign core <;> rfl

theorem isNatLit_digits {ds : Bytes} (h : isNatLit ds = true) : ∀ c ∈ ds, isDigit c = true := by
  simp only [isNatLit, Bool.and_eq_true, List.all_eq_true] at h
  exact h.1.2

theorem parseInt_sound (k : IntKind) (raw : Bytes) (v : Int) (h : parseInt k raw = some v) :
    (trimWS raw = nullLit ∧ v = 0) ∨
    ∃ (neg : Bool) (ds : Bytes), trimWS raw = (if neg then 45 :: ds else ds) ∧ isNatLit ds = true ∧
      v = (if neg then -(digitsVal ds : Int) else (digitsVal ds : Int)) ∧ k.min ≤ v ∧ v ≤ k.max ∧
      (neg = true → k.signed = true) := by
  by_cases hn : trimWS raw == nullLit
  · rw [parseInt, if_pos hn] at h
    exact .inl ⟨eq_of_beq hn, (Option.some.inj h).symm⟩
  · -- each refusal is an `if _ then none else _`: being `some v`, the result passed every test
    simp only [parseInt, hn, Bool.false_eq_true, if_false, Option.ite_none_left_eq_some,
      Option.ite_none_right_eq_some, Option.some.injEq, Bool.and_eq_true, not_and, Bool.not_eq_true',
      Bool.not_eq_false] at h
    obtain ⟨hlit, hs, hr, rfl⟩ := h
    exact .inr ⟨_, _, splitSign_spec _, hlit, rfl, hr.1, hr.2, hs⟩

/-- the converse of `parseInt_sound`. -/
theorem parseInt_lit (k : IntKind) (raw : Bytes) (v : Int) (neg : Bool) (ds : Bytes)
    (hraw : trimWS raw = (if neg then 45 :: ds else ds)) (hlit : isNatLit ds = true)
    (hv : v = (if neg then -(digitsVal ds : Int) else (digitsVal ds : Int)))
    (hmin : k.min ≤ v) (hmax : v ≤ k.max) (hs : neg = true → k.signed = true) :
    parseInt k raw = some v := by
  subst hv
  cases ds with
  | nil => cases hlit
  | cons c r =>
    have hc : isDigit c = true := isNatLit_digits hlit c List.mem_cons_self
    -- the first digit is not '-', so `splitSign` gives back `neg`, nor 'n', so the text is not `null`
    have h45 : c ≠ 45 := by rintro rfl; cases hc
    have h110 : c ≠ 110 := by rintro rfl; cases hc
    unfold parseInt
    cases neg
    · simp_all [nullLit, splitSign_pos c r h45]
    · simp_all [nullLit, splitSign_neg]

theorem printInt_not_ws (v : Int) : ∀ c ∈ printInt v, isWS c = false := by
  have hd : ∀ c ∈ printNat v.natAbs, isWS c = false := fun c hc =>
    digit_not_ws c (isNatLit_digits (printNat_spec _).1 c hc)
  fun_cases printInt v with
  | case1 => exact List.forall_mem_cons.mpr ⟨by decide, hd⟩
  | case2 => exact hd

theorem parseInt_print (k : IntKind) (v : Int) (hmin : k.min ≤ v) (hmax : v ≤ k.max) :
    parseInt k (printInt v) = some v := by
  obtain ⟨hlit, hval⟩ := printNat_spec v.natAbs
  refine parseInt_lit k _ v (decide (v < 0)) (printNat v.natAbs) ?_ hlit ?_ hmin hmax fun hn => ?_
  · rw [trimWS_id _ (printInt_not_ws v)]; simp [printInt]
  · rw [hval]
    by_cases hv : v < 0
    · rw [if_pos (decide_eq_true hv), Int.ofNat_natAbs_of_nonpos (Int.le_of_lt hv), Int.neg_neg]
    · rw [if_neg (mt of_decide_eq_true hv), Int.natAbs_of_nonneg (Int.not_lt.mp hv)]
  · -- an unsigned kind has minimum 0, so it holds no negative `v`
    cases hs : k.signed with
    | true => rfl
    | false => simp [IntKind.min, hs] at hmin; simp at hn; omega

theorem parseBool_sound (raw : Bytes) (b : Bool) (h : parseBool raw = some b) :
    (trimWS raw = [116, 114, 117, 101] ∧ b = true) ∨ (trimWS raw = [102, 97, 108, 115, 101] ∧ b = false) ∨
    (trimWS raw = nullLit ∧ b = false) := by
  revert h
  fun_cases parseBool raw with
  | case1 _ h1 => exact fun h => .inl ⟨eq_of_beq h1, (Option.some.inj h).symm⟩
  | case2 _ _ h1 => exact fun h => .inr (.inl ⟨eq_of_beq h1, (Option.some.inj h).symm⟩)
  | case3 _ _ _ h1 => exact fun h => .inr (.inr ⟨eq_of_beq h1, (Option.some.inj h).symm⟩)
  | case4 => nofun

theorem lookupName_some {names : List (Bytes × Int)} {raw : Bytes} {v : Int}
    (h : lookupName names raw = some v) : ∃ p ∈ names, p.1 = raw ∧ p.2 = v := by
  fun_induction lookupName names raw with
  | case1 => cases h
  | case2 _ _ _ hn => cases h; exact ⟨_, List.mem_cons_self, eq_of_beq hn, rfl⟩
  | case3 _ _ _ _ ih =>
    obtain ⟨p, hp, hp2⟩ := ih h
    exact ⟨p, List.mem_cons_of_mem _ hp, hp2⟩

open Larking.Base64

def urlChar (c : UInt8) : Bool := c == 45 || c == 95

/-- the two alphabets differ only at 62 and 63, where the url one has '-' and '_'. -/
theorem enc_url_eq {n : Nat} (h : urlChar (encChar true n) = false) : encChar true n = encChar false n := by
  by_cases hn : n < 62
  · unfold encChar; rw [if_pos hn, if_pos hn]
  · simp only [encChar, show ¬ n < 26 by omega, show ¬ n < 52 by omega, hn, if_false, if_true] at h
    split at h <;> cases h

theorem encode_url_eq_std (pad : Bool) (bs : Bytes) (h : (encode true pad bs).any urlChar = false) :
    encode true pad bs = encode false pad bs := by
  fun_induction encode true pad bs with
  | case1 => rfl
  | case2 a =>
    simp only [encode, List.any_cons, Bool.or_eq_false_iff] at h ⊢
    rw [enc_url_eq h.1, enc_url_eq h.2.1]
  | case3 a b =>
    simp only [encode, List.any_cons, Bool.or_eq_false_iff] at h ⊢
    rw [enc_url_eq h.1, enc_url_eq h.2.1, enc_url_eq h.2.2.1]
  | case4 a b c rest ih =>
    simp only [encode, List.any_cons, Bool.or_eq_false_iff] at h ⊢
    rw [enc_url_eq h.1, enc_url_eq h.2.1, enc_url_eq h.2.2.1, enc_url_eq h.2.2.2.1, ih h.2.2.2.2]

theorem encode_std_no_urlchar (pad : Bool) (bs : Bytes) : (encode false pad bs).any urlChar = false := by
  have := encode_all (fun c => !urlChar c) false pad (fun n hn => by
    have h45 := enc_ne false hn (c := 45) rfl
    have h95 := enc_ne false hn (c := 95) rfl
    simp [urlChar, h45, h95]) (by decide) bs
  rw [List.any_eq_not_all_not, this]; rfl

theorem parseBytes_roundtrip (url pad : Bool) (bs : Bytes) :
    parseBytes (encode url pad bs) = some bs := by
  show decode ((encode url pad bs).any urlChar) ((encode url pad bs).length % 4 == 0) _ = some bs
  cases url with
  | false => rw [encode_std_no_urlchar]; exact decode_by_len false pad bs
  | true =>
    cases hu : (encode true pad bs).any urlChar with
    | true => exact decode_by_len true pad bs
    | false => rw [encode_url_eq_std pad bs hu]; exact decode_by_len false pad bs

end Larking.Param
