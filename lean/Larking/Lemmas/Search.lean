import Larking.Lemmas.Trie
namespace Larking.Trie
open Larking.Lexer

mutual
  /-- what `addRule` maintains.  `k` = number of variable edges between the root and this node: every method
  stored here has exactly `k` variable entries; every stored sub-pattern only has pattern tokens. -/
  def WF : Nat → Node → Prop
    | k, .mk segs methods all vars =>
      (∀ p ∈ methods, p.2.vars.length = k) ∧ (∀ m, all = some m → m.vars.length = k) ∧
      WFSegs k segs ∧ WFVars k vars
  def WFSegs : Nat → List (Bytes × Node) → Prop
    | _, [] => True
    | k, (_, c) :: rest => WF k c ∧ WFSegs k rest
  def WFVars : Nat → List (Var × Node) → Prop
    | _, [] => True
    | k, (v, c) :: rest => (∀ t ∈ v.toks, okPatTok t = true) ∧ WF (k + 1) c ∧ WFVars k rest
end

theorem WFSegs_iff {k : Nat} {segs : List (Bytes × Node)} : WFSegs k segs ↔ ∀ p ∈ segs, WF k p.2 := by
  induction segs with
  | nil => simp [WFSegs]
  | cons p rest ih => simp only [WFSegs, ih, List.forall_mem_cons]

theorem WFVars_iff {k : Nat} {vars : List (Var × Node)} :
    WFVars k vars ↔ ∀ p ∈ vars, (∀ t ∈ p.1.toks, okPatTok t = true) ∧ WF (k + 1) p.2 := by
  induction vars with
  | nil => simp [WFVars]
  | cons p rest ih => simp only [WFVars, ih, List.forall_mem_cons, and_assoc]

theorem WF_empty (k : Nat) : WF k .empty := ⟨nofun, nofun, trivial, trivial⟩

theorem lookupSeg_WF {k : Nat} {segs : List (Bytes × Node)} {key : Bytes} {c : Node}
    (h : WFSegs k segs) (hl : lookupSeg segs key = some c) : WF k c := by
  obtain ⟨_, _, hm⟩ := lookupSeg_mem segs key c hl
  exact WFSegs_iff.mp h _ hm

/-- `Reach conv verb n toks m caps es`: following the edges `es` from `n` consumes exactly the
request tokens `toks`, ends at a node that binds `m` for `verb` (or for any verb), and
captures `caps`.  `var` asks for `caps.length + 1 ≤ m.vars.length` beside the entry of `m.vars` it reads:
the index is a truncated subtraction, where `m.vars[len(m.vars)-len(ps)-1]` panics on a negative one. -/
inductive Reach (conv : Nat → Bytes → Bool) (verb : Bytes) :
    Node → List Tok → Meth → Caps → List Edge → Prop
  | hereVerb (n : Node) (toks : List Tok) (m : Meth) :
      toks.length ≤ 1 → lookupMeth n.methods verb = some m → Reach conv verb n toks m [] []
  | hereAll (n : Node) (toks : List Tok) (m : Meth) :
      toks.length ≤ 1 → lookupMeth n.methods verb = none → n.all = some m →
      Reach conv verb n toks m [] []
  | seg (n child : Node) (t0 t1 : Tok) (rest : List Tok) (m : Meth) (caps : Caps) (es : List Edge) :
      lookupSeg n.segs (t0.val ++ t1.val) = some child → Reach conv verb child rest m caps es →
      Reach conv verb n (t0 :: t1 :: rest) m caps (.seg (t0.val ++ t1.val) :: es)
  | var (n child : Node) (v : Var) (t0 : Tok) (toks1 : List Tok) (i : Nat) (m : Meth) (caps : Caps)
      (es : List Edge) (fp : Option Nat) :
      t0.typ = .slash → (v, child) ∈ n.vars → 2 ≤ (t0 :: toks1).length →
      varIndex v.toks toks1 0 = .ok (some i) →
      Reach conv verb child (toks1.drop i) m caps es →
      m.vars[m.vars.length - caps.length - 1]? = some fp → caps.length + 1 ≤ m.vars.length →
      (∀ f, fp = some f → conv f (toksString (toks1.take i)) = true) →
      Reach conv verb n (t0 :: toks1) m
        (caps ++ [(fp, match fp with | some _ => toksString (toks1.take i) | none => [])])
        (.var v :: es)

/-- what the node itself answers: `methods[verb]`, else `methodAll`. -/
def here (verb : Bytes) (n : Node) : SRes :=
  match lookupMeth n.methods verb with
  | some m => .found m []
  | none => match n.all with
    | some m => .found m []
    | none => .fail .method

/-- the end of a variable's turn in `search`: its capture is bound to the next field path of
the method found below (`m.vars[len(m.vars)-len(ps)-1]`). -/
def bindCap (conv : Nat → Bytes → Bool) (capture : Bytes) (m : Meth) (caps : Caps) : SRes :=
  if m.vars.length < caps.length + 1 then .panic "index out of range m.vars"
  else match m.vars[m.vars.length - caps.length - 1]? with
    | none => .panic "index out of range m.vars"
    | some none => .found m (caps ++ [(none, [])])
    | some (some fp) => if conv fp capture then .found m (caps ++ [(some fp, capture)]) else .fail .conv

theorem search_short {conv verb} {n : Node} {toks : List Tok} (h : toks.length ≤ 1) :
    search conv verb n toks = here verb n := by
  obtain _ | ⟨_, _ | _⟩ := toks
  · cases n; rfl
  · cases n; rfl
  · exact absurd h (by simp)

theorem searchSegs_eq (conv) (verb) (segs : List (Bytes × Node)) (key : Bytes) (rest : List Tok) :
    searchSegs conv verb segs key rest = (lookupSeg segs key).map fun c => search conv verb c rest := by
  induction segs with
  | nil => rfl
  | cons p more ih =>
    rw [searchSegs, lookupSeg]
    cases p.1 == key
    · exact ih
    · rfl

theorem search_cons_cons (conv) (verb) (n : Node) (t0 t1 : Tok) (rest : List Tok) :
    search conv verb n (t0 :: t1 :: rest) =
      match (lookupSeg n.segs (t0.val ++ t1.val)).map fun c => search conv verb c rest with
      | some (.found m caps) => .found m caps
      | some (.panic s) => .panic s
      | _ => if t0.typ == .slash then searchVars conv verb n.vars (t1 :: rest) else .fail .notFound := by
  cases n
  rw [search, searchSegs_eq]
  rfl

theorem searchVars_cons (conv) (verb) (v : Var) (c : Node) (more : List (Var × Node)) (toks1 : List Tok) :
    searchVars conv verb ((v, c) :: more) toks1 =
      match varIndex v.toks toks1 0 with
      | .panic s => .panic s
      | .err _ => .panic "unreachable"
      | .ok none => searchVars conv verb more toks1
      | .ok (some i) =>
        match search conv verb c (toks1.drop i) with
        | .panic s => .panic s
        | .fail _ => searchVars conv verb more toks1
        | .found m caps => bindCap conv (toksString (toks1.take i)) m caps := by
  rw [searchVars]
  rfl

section
variable {conv : Nat → Bytes → Bool} {capture : Bytes} {m m' : Meth} {caps caps' : Caps}

/-- a capture is bound under exactly the premises of `Reach.var`. -/
theorem bindCap_found (h : bindCap conv capture m caps = .found m' caps') :
    m' = m ∧ caps.length + 1 ≤ m.vars.length ∧ ∃ fp, m.vars[m.vars.length - caps.length - 1]? = some fp ∧
      (∀ f, fp = some f → conv f capture = true) ∧
      caps' = caps ++ [(fp, match fp with | some _ => capture | none => [])] := by
  revert h
  fun_cases bindCap conv capture m caps with
  | case1 | case2 | case5 => nofun
  | case3 hlt hfp => rintro ⟨⟩; exact ⟨rfl, Nat.not_lt.mp hlt, none, hfp, nofun, rfl⟩
  | case4 hlt fp hfp hc =>
    rintro ⟨⟩; exact ⟨rfl, Nat.not_lt.mp hlt, _, hfp, fun f hf => Option.some.inj hf ▸ hc, rfl⟩

theorem bindCap_ne_panic (hlt : caps.length < m.vars.length) (s : String) :
    bindCap conv capture m caps ≠ .panic s := by
  fun_cases bindCap conv capture m caps with
  | case1 h => exact absurd (Nat.lt_of_lt_of_le h hlt) (Nat.lt_irrefl _)
  | case2 _ hn => rw [List.getElem?_eq_none_iff] at hn; omega
  | case3 | case4 | case5 => nofun

theorem bindCap_cases (hconv : ∀ f t, conv f t = true) (capture : Bytes) (m : Meth) (caps : Caps) :
    (∃ s, bindCap conv capture m caps = .panic s) ∨ ∃ caps', bindCap conv capture m caps = .found m caps' := by
  fun_cases bindCap conv capture m caps with
  | case1 | case2 => exact .inl ⟨_, rfl⟩
  | case3 | case4 => exact .inr ⟨_, rfl⟩
  | case5 _ fp _ hc => exact absurd (hconv fp capture) hc

end

theorem searchVars_found {conv verb} {vars : List (Var × Node)} {toks1 : List Tok} {m : Meth} {caps : Caps}
    (h : searchVars conv verb vars toks1 = .found m caps) :
    ∃ p ∈ vars, ∃ i m' caps', varIndex p.1.toks toks1 0 = .ok (some i) ∧
      search conv verb p.2 (toks1.drop i) = .found m' caps' ∧
      bindCap conv (toksString (toks1.take i)) m' caps' = .found m caps := by
  induction vars with
  | nil => rw [searchVars] at h; cases h
  | cons p more ih =>
    rw [searchVars_cons] at h
    have tail := fun h' => (ih h').imp fun _ => And.imp_left (List.mem_cons_of_mem p)
    split at h
    · cases h
    · cases h
    · exact tail h
    · split at h
      · cases h
      · exact tail h
      · exact ⟨p, List.mem_cons_self .., _, _, _, ‹_›, ‹_›, h⟩

theorem search_sound {conv verb} {n : Node} {toks : List Tok} {m : Meth} {caps : Caps}
    (h : search conv verb n toks = .found m caps) : ∃ es, Reach conv verb n toks m caps es := by
  induction n using Node.induct generalizing toks m caps with
  | mk segs methods all vars ihs ihv =>
    by_cases hshort : toks.length ≤ 1
    · rw [search_short hshort] at h
      revert h
      fun_cases here verb (.mk segs methods all vars) with
      | case1 _ hl => rintro ⟨⟩; exact ⟨[], .hereVerb _ _ _ hshort hl⟩
      | case2 hl _ ha => rintro ⟨⟩; exact ⟨[], .hereAll _ _ _ hshort hl ha⟩
      | case3 => nofun
    · obtain _ | ⟨t0, _ | ⟨t1, rest⟩⟩ := toks
      · exact absurd (Nat.zero_le _) hshort
      · exact absurd (Nat.le_refl _) hshort
      rw [search_cons_cons] at h
      split at h
      · rename_i hs
        cases h
        obtain ⟨child, hl, hc⟩ := Option.map_eq_some_iff.mp hs
        obtain ⟨_, _, hmem⟩ := lookupSeg_mem _ _ _ hl
        obtain ⟨es, hr⟩ := ihs _ hmem hc
        exact ⟨_, .seg _ child t0 t1 rest m caps es hl hr⟩
      · cases h
      · split at h
        · rename_i ht0
          obtain ⟨⟨v, c⟩, hmem, i, m', caps', hidx, hs, hb⟩ := searchVars_found h
          obtain ⟨es, hr⟩ := ihv _ hmem hs
          obtain ⟨rfl, hlen, fp, hfp, hconv, rfl⟩ := bindCap_found hb
          exact ⟨_, .var _ c v t0 _ i _ caps' es fp (beq_iff_eq.mp ht0) hmem (Nat.le_add_left ..) hidx hr hfp hlen hconv⟩
        · cases h

theorem lookupSeg_of_searchSegs (conv) (verb) (segs : List (Bytes × Node)) (key : Bytes) (rest : List Tok)
    (r : SRes) (h : searchSegs conv verb segs key rest = some r) :
    ∃ child, lookupSeg segs key = some child ∧ r = search conv verb child rest := by
  rw [searchSegs_eq] at h
  obtain ⟨child, hl, hc⟩ := Option.map_eq_some_iff.mp h
  exact ⟨child, hl, hc.symm⟩

theorem searchSegs_sound (conv) (verb) : ∀ (segs : List (Bytes × Node)) (key : Bytes)
    (rest : List Tok) (m : Meth) (caps : Caps),
    searchSegs conv verb segs key rest = some (.found m caps) →
    ∃ child es, lookupSeg segs key = some child ∧ Reach conv verb child rest m caps es := by
  intro segs key rest m caps h
  obtain ⟨child, hl, hc⟩ := lookupSeg_of_searchSegs conv verb segs key rest _ h
  obtain ⟨es, hr⟩ := search_sound hc.symm
  exact ⟨child, es, hl, hr⟩

theorem searchVars_sound (conv) (verb) : ∀ (vars : List (Var × Node)) (t0 : Tok) (toks1 : List Tok)
    (m : Meth) (caps : Caps), t0.typ = .slash → 1 ≤ toks1.length →
    searchVars conv verb vars toks1 = .found m caps →
    ∃ es, ∀ (n : Node), (∀ p, p ∈ vars → p ∈ n.vars) → Reach conv verb n (t0 :: toks1) m caps es := by
  intro vars t0 toks1 m caps ht0 hlen h
  obtain ⟨⟨v, c⟩, hmem, i, m', caps', hidx, hs, hb⟩ := searchVars_found h
  obtain ⟨es, hr⟩ := search_sound hs
  obtain ⟨rfl, hlen', fp, hfp, hconv, rfl⟩ := bindCap_found hb
  exact ⟨_, fun n hn => .var n c v t0 _ i _ caps' es fp ht0 (hn _ hmem) (Nat.succ_le_succ hlen) hidx hr hfp hlen' hconv⟩

theorem Reach.vars_length {conv verb n toks m caps es} (h : Reach conv verb n toks m caps es) :
    ∀ k, WF k n → m.vars.length = k + caps.length := by
  intro k hwf
  induction h generalizing k with
  | hereVerb n toks m _ hl =>
    obtain ⟨segs, methods, all, vars⟩ := n
    obtain ⟨p, hp, rfl⟩ := lookupMeth_mem hl
    exact hwf.1 p hp
  | hereAll n toks m _ _ ha =>
    obtain ⟨segs, methods, all, vars⟩ := n
    exact hwf.2.1 m ha
  | seg n child t0 t1 rest m caps es hl _ ih =>
    obtain ⟨segs, methods, all, vars⟩ := n
    exact ih k (lookupSeg_WF hwf.2.2.1 hl)
  | var n child v t0 toks1 i m caps es fp _ hmem _ _ _ _ _ _ ih =>
    obtain ⟨segs, methods, all, vars⟩ := n
    rw [List.length_append, List.length_singleton, ih (k + 1) (WFVars_iff.mp hwf.2.2.2 _ hmem).2]
    exact Nat.add_right_comm ..

theorem search_vars_length {conv verb} {k : Nat} {n : Node} (hwf : WF k n) {toks : List Tok} {m : Meth}
    {caps : Caps} (h : search conv verb n toks = .found m caps) : m.vars.length = k + caps.length :=
  (search_sound h).elim fun _ hr => hr.vars_length k hwf

theorem searchVars_ne_panic {conv verb} {k : Nat} {toks1 : List Tok} {vars : List (Var × Node)}
    (hwf : WFVars k vars) (hc : ∀ p ∈ vars, ∀ toks s, search conv verb p.2 toks ≠ .panic s) (s : String) :
    searchVars conv verb vars toks1 ≠ .panic s := by
  induction vars with
  | nil => rw [searchVars]; nofun
  | cons p more ih =>
    replace ih := ih hwf.2.2 fun q hq => hc q (.tail _ hq)
    obtain ⟨_ | i, hr⟩ := varIndex_ok p.1.toks toks1 0 hwf.1 <;> rw [searchVars_cons, hr]
    · exact ih
    · dsimp only
      split
      · exact absurd ‹_› (hc _ (.head _) _ _)
      · exact ih
      · have := search_vars_length hwf.2.1 ‹_›
        exact bindCap_ne_panic (by omega) s

/-- a method found below a variable has an entry for it (`search_vars_length`), so
`m.vars[len(m.vars)-len(ps)-1]` is in range. -/
theorem search_ne_panic {conv verb} {n : Node} {k : Nat} (hwf : WF k n) (toks : List Tok) (s : String) :
    search conv verb n toks ≠ .panic s := by
  induction n using Node.induct generalizing k toks s with
  | mk segs methods all vars ihs ihv =>
    by_cases hshort : toks.length ≤ 1
    · rw [search_short hshort]
      fun_cases here verb (.mk segs methods all vars) <;> nofun
    · obtain _ | ⟨t0, _ | ⟨t1, rest⟩⟩ := toks
      · exact absurd (Nat.zero_le _) hshort
      · exact absurd (Nat.le_refl _) hshort
      rw [search_cons_cons]
      split
      · nofun
      · rename_i hs
        obtain ⟨child, hl, hc⟩ := Option.map_eq_some_iff.mp hs
        obtain ⟨_, _, hmem⟩ := lookupSeg_mem _ _ _ hl
        exact absurd hc (ihs _ hmem (lookupSeg_WF hwf.2.2.1 hl) _ _)
      · split
        · exact searchVars_ne_panic hwf.2.2.2 (fun p hp => ihv p hp (WFVars_iff.mp hwf.2.2.2 p hp).2) s
        · nofun

theorem searchSegs_wf (conv) (verb) : ∀ (k : Nat) (segs : List (Bytes × Node)) (key : Bytes)
    (rest : List Tok), WFSegs k segs →
    (∀ s, searchSegs conv verb segs key rest ≠ some (.panic s)) ∧
    (∀ m caps, searchSegs conv verb segs key rest = some (.found m caps) → m.vars.length = k + caps.length) := by
  intro k segs key rest hwf
  rw [searchSegs_eq]
  cases hl : lookupSeg segs key with
  | none => exact ⟨nofun, nofun⟩
  | some c =>
    have hc := lookupSeg_WF hwf hl
    exact ⟨fun s h => search_ne_panic hc rest s (Option.some.inj h),
      fun m caps h => search_vars_length hc (Option.some.inj h)⟩

theorem searchVars_wf (conv) (verb) : ∀ (k : Nat) (vars : List (Var × Node)) (toks1 : List Tok),
    WFVars k vars →
    (∀ s, searchVars conv verb vars toks1 ≠ .panic s) ∧
    (∀ m caps, searchVars conv verb vars toks1 = .found m caps → m.vars.length = k + caps.length) := by
  intro k vars toks1 hwf
  refine ⟨searchVars_ne_panic hwf fun p hp => search_ne_panic (WFVars_iff.mp hwf p hp).2, fun m caps h => ?_⟩
  obtain ⟨⟨v, c⟩, hmem, i, m', caps', _, hs, hb⟩ := searchVars_found h
  obtain ⟨rfl, _, _, _, _, rfl⟩ := bindCap_found hb
  rw [List.length_append, List.length_singleton, search_vars_length (WFVars_iff.mp hwf _ hmem).2 hs]
  exact Nat.add_right_comm ..

end Larking.Trie
