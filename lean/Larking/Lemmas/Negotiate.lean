import Larking.Model.Negotiate
namespace Larking.Negotiate

def pairs (offers : List Bytes) (specs : List Spec) : List (Bytes × Spec) :=
  offers.flatMap fun o => specs.map fun s => (o, s)

theorem fold_pairs {β} (f : β → Bytes → Spec → β) (offers : List Bytes) (specs : List Spec) (b0 : β) :
    offers.foldl (fun b o => specs.foldl (fun b s => f b o s) b) b0
      = (pairs offers specs).foldl (fun b p => f b p.1 p.2) b0 := by
  simp only [pairs, List.foldl_flatMap, List.foldl_map]

theorem mem_pairs {offers : List Bytes} {specs : List Spec} {p : Bytes × Spec} :
    p ∈ pairs offers specs ↔ p.1 ∈ offers ∧ p.2 ∈ specs := by
  simp only [pairs, List.mem_flatMap, List.mem_map]
  constructor
  · rintro ⟨o, ho, s, hs, rfl⟩; exact ⟨ho, hs⟩
  · rintro ⟨h1, h2⟩; exact ⟨p.1, h1, p.2, h2, rfl⟩

/-- the fold's invariant: still the default (never set, `wild = 3`), or an offered type that some
Accept range with q ≠ 0 admits. -/
def Good (offers : List Bytes) (specs : List Spec) (dflt : Bytes) (b : Best) : Prop :=
  (b.offer = dflt ∧ b.wild = 3 ∧ b.q = ⟨-1, 1⟩) ∨
  (b.wild < 3 ∧ b.offer ∈ offers ∧ ∃ s ∈ specs, s.q.isZero = false ∧ rangeMatches s.value b.offer = true)

theorem wildOf_le (v : Bytes) : wildOf v ≤ 2 := by
  fun_cases wildOf v <;> decide

theorem stepType_cases (b : Best) (o : Bytes) (s : Spec) :
    stepType b o s = b ∨
    (stepType b o s = ⟨o, s.q, wildOf s.value⟩ ∧ s.q.isZero = false ∧ rangeMatches s.value o = true) := by
  fun_cases stepType b o s with
  | case3 hz _ hm => exact Or.inr ⟨rfl, eq_false_of_ne_true hz, (Bool.and_eq_true _ _ ▸ hm).1⟩
  | _ => exact Or.inl rfl

theorem stepType_good (offers : List Bytes) (specs : List Spec) (dflt : Bytes) (b : Best)
    (hb : Good offers specs dflt b) (p : Bytes × Spec) (hp : p ∈ pairs offers specs) :
    Good offers specs dflt (stepType b p.1 p.2) := by
  rcases stepType_cases b p.1 p.2 with h | ⟨h, hz, hm⟩ <;> rw [h]
  · exact hb
  · exact Or.inr ⟨Nat.lt_succ_of_le (wildOf_le _), (mem_pairs.mp hp).1, p.2, (mem_pairs.mp hp).2, hz, hm⟩

theorem fold_good (specs : List Spec) (offers : List Bytes) (dflt : Bytes) :
    Good offers specs dflt
      ((pairs offers specs).foldl (fun b p => stepType b p.1 p.2) ⟨dflt, ⟨-1, 1⟩, 3⟩) :=
  List.foldlRecOn _ _ (Or.inl ⟨rfl, rfl, rfl⟩) (stepType_good offers specs dflt)

theorem negotiate_sound (specs : List Spec) (offers : List Bytes) (dflt : Bytes) :
    let r := negotiateContentType specs offers dflt
    r = dflt ∨ (r ∈ offers ∧ ∃ s ∈ specs, s.q.isZero = false ∧ rangeMatches s.value r = true) := by
  simp only [negotiateContentType]
  rw [fold_pairs (fun b o s => stepType b o s)]
  rcases fold_good specs offers dflt with h | h
  · exact Or.inl h.1
  · exact Or.inr ⟨h.2.1, h.2.2⟩

theorem stepType_set_mono (b : Best)
    (o : Bytes) (s : Spec) (hb : b.wild < 3) : (stepType b o s).wild < 3 := by
  rcases stepType_cases b o s with h | ⟨h, _⟩ <;> rw [h]
  · exact hb
  · exact Nat.lt_succ_of_le (wildOf_le _)

theorem stepType_sets (offers : List Bytes) (specs : List Spec) (dflt : Bytes) (b : Best)
    (o : Bytes) (s : Spec) (hb : Good offers specs dflt b)
    (hq : 0 < s.q.num) (hd : 0 < s.q.den) (hm : rangeMatches s.value o = true) :
    (stepType b o s).wild < 3 := by
  rcases hb with ⟨_, _, hbq⟩ | ⟨hw, _⟩
  · -- never set: b.q = -1 < s.q, so the pair is taken
    have hz : s.q.isZero = false := beq_false_of_ne (Int.ne_of_gt hq)
    have hlt : s.q.lt b.q = false := by rw [hbq]; simp [Q.lt]; omega
    have hgt : b.q.lt s.q = true := by rw [hbq]; simp [Q.lt]; omega
    simp only [stepType, hz, hlt, hm, hgt, Bool.false_eq_true, if_false, Bool.true_or, Bool.and_self,
      if_true]
    exact Nat.lt_succ_of_le (wildOf_le _)
  · exact stepType_set_mono b o s hw

theorem foldl_eventually {α β} (f : β → α → β) (I S : β → Prop) (l : List α) (b0 : β) (a0 : α)
    (ha : a0 ∈ l) (h0 : I b0)
    (hI : ∀ b, I b → ∀ a ∈ l, I (f b a))
    (hset : ∀ b, I b → S (f b a0))
    (hmono : ∀ b a, S b → S (f b a)) : S (l.foldl f b0) := by
  obtain ⟨l1, l2, rfl⟩ := List.append_of_mem ha
  rw [List.foldl_append, List.foldl_cons]
  exact List.foldlRecOn l2 f
    (hset _ (List.foldlRecOn l1 f h0 fun b hb a ha => hI b hb a (List.mem_append_left _ ha)))
    fun b hb a _ => hmono b a hb

theorem negotiate_complete (specs : List Spec) (offers : List Bytes) (dflt : Bytes)
    (hden : ∀ s ∈ specs, 0 < s.q.den)
    (hex : ∃ o ∈ offers, ∃ s ∈ specs, 0 < s.q.num ∧ rangeMatches s.value o = true) :
    let r := negotiateContentType specs offers dflt
    r ∈ offers ∧ ∃ s ∈ specs, s.q.isZero = false ∧ rangeMatches s.value r = true := by
  obtain ⟨o, ho, s, hs, hq, hm⟩ := hex
  simp only [negotiateContentType]
  rw [fold_pairs (fun b o s => stepType b o s)]
  -- the pair (o, s) sets the state when its turn comes, and a set state stays set
  have hset := foldl_eventually (fun (b : Best) (p : Bytes × Spec) => stepType b p.1 p.2)
    (Good offers specs dflt) (fun b => b.wild < 3) (pairs offers specs)
    ⟨dflt, ⟨-1, 1⟩, 3⟩ (o, s) (mem_pairs.mpr ⟨ho, hs⟩) (Or.inl ⟨rfl, rfl, rfl⟩)
    (stepType_good offers specs dflt)
    (fun b hb => stepType_sets offers specs dflt b o s hb hq (hden s hs) hm)
    (fun b p hb => stepType_set_mono b p.1 p.2 hb)
  rcases fold_good specs offers dflt with h | h
  · rw [h.2.1] at hset; exact absurd hset (Nat.lt_irrefl _)
  · exact ⟨h.2.1, h.2.2⟩

theorem fracDigits_den (s : Bytes) (n d : Nat) (hd : 0 < d) : 0 < (fracDigits s n d).2.1 := by
  fun_induction fracDigits s n d with
  | case1 => exact hd
  | case2 c rest n d _ ih => exact ih (Nat.mul_pos hd (by decide))
  | case3 => exact hd

theorem expectQuality_den (s : Bytes) (q : Q) (rest : Bytes) (h : expectQuality s = some (q, rest)) :
    0 < q.den := by
  revert h
  fun_cases expectQuality s <;> intro h <;> cases h
  · exact fracDigits_den _ 0 1 Nat.one_pos
  · exact Nat.one_pos

/-- the `match` is what `parseLine` does after one range, in both of its accepting cases. -/
theorem parseLine_cont_den {fuel : Nat} {t : Bytes} {q : Q} (hq : 0 < q.den)
    (ih : ∀ s5, ∀ sp ∈ parseLine fuel (skipSpace s5), 0 < sp.q.den) (s3 : Bytes) :
    ∀ sp ∈ (match skipSpace s3 with
      | 44 :: s5 => (⟨t, q⟩ : Spec) :: parseLine fuel (skipSpace s5)
      | _ => [⟨t, q⟩]), 0 < sp.q.den := by
  split
  · exact List.forall_mem_cons.mpr ⟨hq, ih _⟩
  · exact List.forall_mem_cons.mpr ⟨hq, by simp⟩

theorem parseLine_den (fuel : Nat) (s : Bytes) : ∀ sp ∈ parseLine fuel s, 0 < sp.q.den := by
  fun_induction parseLine fuel s with
  | case1 | case2 | case3 | case5 => simp
  -- case4: the range carries `;q=` and a quality that parses; case6: no parameter, quality 1
  | case4 _ _ _ _ _ _ _ _ _ _ _ _ _ q s6 hq ih => exact parseLine_cont_den (expectQuality_den _ _ _ hq) ih s6
  | case6 _ _ _ _ _ _ s2 _ _ ih => exact parseLine_cont_den (q := ⟨1, 1⟩) Nat.one_pos ih s2

/-- `negotiate_complete`'s `hden`. -/
theorem parseAccept_den (values : List Bytes) : ∀ sp ∈ parseAccept values, 0 < sp.q.den := by
  intro sp h
  simp only [parseAccept, List.mem_flatMap] at h
  obtain ⟨v, _, hv⟩ := h
  exact parseLine_den _ _ sp hv

end Larking.Negotiate
