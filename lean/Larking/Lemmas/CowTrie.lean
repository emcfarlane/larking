import Larking.Model.CowTrie
namespace Larking.CowTrie

/- Sharing facts are stated for an arbitrary property `P` of allocation tags: what holds of every node
an operation may touch holds of every node it writes and every node it leaves.  `P := (· = g)` is
privacy of the working copy, `P := (· ∈ gens t)` is "only nodes of `t`". -/
variable {P : Nat → Prop}

theorem forall_gens {g : Nat} {segs vars : List (Nat × GNode)} {ms : List (Nat × Nat)} {all : Option Nat} :
    (∀ x ∈ gens (.mk g segs vars ms all), P x) ↔ P g ∧ (∀ x ∈ gensL segs, P x) ∧ ∀ x ∈ gensL vars, P x := by
  simp only [gens, List.forall_mem_cons, List.forall_mem_append]

theorem forall_gensL_cons {k : Nat} {c : GNode} {rest : List (Nat × GNode)} :
    (∀ x ∈ gensL ((k, c) :: rest), P x) ↔ (∀ x ∈ gens c, P x) ∧ ∀ x ∈ gensL rest, P x := by
  simp only [gensL, List.forall_mem_append]

mutual
  theorem clone_gens (g : Nat) : ∀ (t : GNode), ∀ x ∈ gens (clone g t), x = g
    | .mk _ segs vars _ _ => forall_gens.mpr ⟨rfl, cloneL_gens g segs, cloneL_gens g vars⟩
  theorem cloneL_gens (g : Nat) : ∀ (l : List (Nat × GNode)), ∀ x ∈ gensL (cloneL g l), x = g
    | [] => nofun
    | (_, c) :: rest => forall_gensL_cons.mpr ⟨clone_gens g c, cloneL_gens g rest⟩
end

theorem lookupL_gens {l : List (Nat × GNode)} {k : Nat} {c : GNode}
    (hl : ∀ x ∈ gensL l, P x) (h : lookupL l k = some c) : ∀ x ∈ gens c, P x := by
  induction l with
  | nil => cases h
  | cons e rest ih =>
    simp only [lookupL] at h
    split at h
    · cases h; exact (forall_gensL_cons.mp hl).1
    · exact ih (forall_gensL_cons.mp hl).2 h

theorem setL_gens {l : List (Nat × GNode)} {c : GNode} (k : Nat)
    (hl : ∀ x ∈ gensL l, P x) (hc : ∀ x ∈ gens c, P x) : ∀ x ∈ gensL (setL l k c), P x := by
  induction l with
  | nil => exact forall_gensL_cons.mpr ⟨hc, nofun⟩
  | cons e rest ih =>
    obtain ⟨he, hrest⟩ := forall_gensL_cons.mp hl
    simp only [setL]
    split
    · exact forall_gensL_cons.mpr ⟨hc, hrest⟩
    · exact forall_gensL_cons.mpr ⟨he, ih hrest⟩

theorem addRoute_all {g : Nat} (hg : P g) (route : List Edge) (verb m : Nat) :
    ∀ t : GNode, (∀ x ∈ gens t, P x) →
    (∀ x ∈ (addRoute g t route verb m).2, P x) ∧ (∀ x ∈ gens (addRoute g t route verb m).1, P x) := by
  have hnew : ∀ x ∈ gens (.mk g [] [] [] none), P x := forall_gens.mpr ⟨hg, nofun, nofun⟩
  induction route with
  | nil =>
    intro ⟨gen, segs, vars, methods, all⟩ ht
    exact ⟨List.forall_mem_singleton.mpr (forall_gens.mp ht).1, ht⟩
  | cons e rest ih =>
    intro ⟨gen, segs, vars, methods, all⟩ ht
    obtain ⟨hgen, hsegs, hvars⟩ := forall_gens.mp ht
    cases e with
    | seg k =>
      simp only [addRoute]
      cases hl : lookupL segs k with
      | some c =>
        obtain ⟨h1, h2⟩ := ih c (lookupL_gens hsegs hl)
        exact ⟨h1, forall_gens.mpr ⟨hgen, setL_gens k hsegs h2, hvars⟩⟩
      | none =>
        obtain ⟨h1, h2⟩ := ih _ hnew
        exact ⟨List.forall_mem_cons.mpr ⟨hgen, h1⟩, forall_gens.mpr ⟨hgen, setL_gens k hsegs h2, hvars⟩⟩
    | var k =>
      simp only [addRoute]
      cases hl : lookupL vars k with
      | some c =>
        obtain ⟨h1, h2⟩ := ih c (lookupL_gens hvars hl)
        exact ⟨h1, forall_gens.mpr ⟨hgen, hsegs, setL_gens k hvars h2⟩⟩
      | none =>
        obtain ⟨h1, h2⟩ := ih _ hnew
        exact ⟨List.forall_mem_cons.mpr ⟨hgen, h1⟩, forall_gens.mpr ⟨hgen, hsegs, setL_gens k hvars h2⟩⟩

/-- a registration's rules, applied one after another to the working trie. -/
def addRoutes (g : Nat) (t : GNode) : List (List Edge × Nat × Nat) → GNode × List Nat
  | [] => (t, [])
  | (route, verb, m) :: rest =>
    let r := addRoute g t route verb m
    let r2 := addRoutes g r.1 rest
    (r2.1, r.2 ++ r2.2)

theorem addRoutes_all {g : Nat} (hg : P g) (rs : List (List Edge × Nat × Nat)) :
    ∀ t : GNode, (∀ x ∈ gens t, P x) →
    (∀ x ∈ (addRoutes g t rs).2, P x) ∧ (∀ x ∈ gens (addRoutes g t rs).1, P x) := by
  induction rs with
  | nil => exact fun t ht => ⟨fun x hx => (nomatch hx), ht⟩
  | cons r rest ih =>
    intro t ht
    obtain ⟨h1, h2⟩ := addRoute_all hg r.1 r.2.1 r.2.2 t ht
    obtain ⟨h3, h4⟩ := ih _ h2
    exact ⟨List.forall_mem_append.mpr ⟨h1, h3⟩, h4⟩

mutual
  theorem delRoute_all (name : Nat) : ∀ (t : GNode) (r : GNode × List Nat),
      delRoute name t = some r → (∀ x ∈ gens t, P x) → (∀ w ∈ r.2, P w) ∧ (∀ x ∈ gens r.1, P x)
    | .mk gen segs vars methods all, r, h, ht => by
      obtain ⟨hgen, hsegs, hvars⟩ := forall_gens.mp ht
      simp only [delRoute] at h
      split at h
      · rename_i rs hs
        cases h
        obtain ⟨h1, h2⟩ := delRouteL_all name segs rs hs hsegs
        exact ⟨List.forall_mem_cons.mpr ⟨hgen, h1⟩, forall_gens.mpr ⟨hgen, h2, hvars⟩⟩
      · split at h
        · rename_i rv hv
          cases h
          obtain ⟨h1, h2⟩ := delRouteL_all name vars rv hv hvars
          exact ⟨List.forall_mem_cons.mpr ⟨hgen, h1⟩, forall_gens.mpr ⟨hgen, hsegs, h2⟩⟩
        · split at h
          · cases h
            exact ⟨List.forall_mem_singleton.mpr hgen, forall_gens.mpr ⟨hgen, hsegs, hvars⟩⟩
          · cases h
  theorem delRouteL_all (name : Nat) : ∀ (l : List (Nat × GNode)) (r : List (Nat × GNode) × List Nat),
      delRouteL name l = some r → (∀ x ∈ gensL l, P x) → (∀ w ∈ r.2, P w) ∧ (∀ x ∈ gensL r.1, P x)
    | [], r, h, _ => by cases h
    | (k, c) :: rest, r, h, hl => by
      obtain ⟨hc, hrest⟩ := forall_gensL_cons.mp hl
      simp only [delRouteL] at h
      split at h
      · rename_i rc hrc
        cases h
        obtain ⟨h1, h2⟩ := delRoute_all name c rc hrc hc
        refine ⟨h1, ?_⟩
        split
        · exact forall_gensL_cons.mpr ⟨h2, hrest⟩
        · exact hrest
      · split at h
        · rename_i rr hr
          cases h
          obtain ⟨h1, h2⟩ := delRouteL_all name rest rr hr hrest
          exact ⟨h1, forall_gensL_cons.mpr ⟨hc, h2⟩⟩
        · cases h
end

theorem delRouteL_spec (name : Nat) : ∀ (l : List (Nat × GNode)) (r : List (Nat × GNode) × List Nat),
    delRouteL name l = some r → (∀ w ∈ r.2, w ∈ gensL l) ∧ (∀ x ∈ gensL r.1, x ∈ gensL l) :=
  fun l r h => delRouteL_all name l r h fun _ hx => hx

end Larking.CowTrie
