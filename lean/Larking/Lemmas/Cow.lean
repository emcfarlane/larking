import Larking.Model.Cow
import Larking.Lemmas.Registry
namespace Larking.Cow
open Larking.Registry (put put_same put_other)

/-- a slice header over the heap: within its capacity and, unless that is zero (a nil slice), on an
allocated array of exactly that capacity with ghost tag `m`. -/
def WFS (h : Heap) (m : Nat) (s : Slice) : Prop :=
  s.len ≤ s.cap ∧ (0 < s.cap → s.arr < h.next ∧ (h.arrs s.arr).length = s.cap ∧ h.owner s.arr = m)

theorem WFS.len_le {h : Heap} {m : Nat} {s : Slice} (hs : WFS h m s) : s.len ≤ s.cap := hs.1
theorem WFS.allocated {h : Heap} {m : Nat} {s : Slice} (hs : WFS h m s) (hc : 0 < s.cap) : s.arr < h.next := (hs.2 hc).1
theorem WFS.arr_length {h : Heap} {m : Nat} {s : Slice} (hs : WFS h m s) (hc : 0 < s.cap) :
    (h.arrs s.arr).length = s.cap := (hs.2 hc).2.1
theorem WFS.owner {h : Heap} {m : Nat} {s : Slice} (hs : WFS h m s) (hc : 0 < s.cap) : h.owner s.arr = m := (hs.2 hc).2.2

theorem view_nil_of_cap0 (h : Heap) (s : Slice) (hl : s.len ≤ s.cap) (hc : s.cap = 0) : view h s = [] := by
  have : s.len = 0 := Nat.le_zero.mp (hc ▸ hl)
  simp [view, this]

theorem view_length {h : Heap} {m : Nat} {s : Slice} (hs : WFS h m s) : (view h s).length = s.len := by
  have := hs.len_le
  by_cases hc : s.cap = 0
  · rw [view_nil_of_cap0 h s this hc]; exact (Nat.le_zero.mp (hc ▸ this)).symm
  · simp only [view, List.length_take, hs.arr_length (Nat.pos_of_ne_zero hc)]; exact Nat.min_eq_left this

/-- what the ghost tag is for: allocated headers on one array belong to one method. -/
theorem WFS.owner_eq {h : Heap} {m m' : Nat} {t s : Slice} (ht : WFS h m t) (hs : WFS h m' s)
    (hct : 0 < t.cap) (hcs : 0 < s.cap) (he : t.arr = s.arr) : m = m' := by
  rw [← ht.owner hct, ← hs.owner hcs, he]

theorem append_mono (grow : Nat → Nat) (m : Nat) (h : Heap) (s : Slice) (x : Nat) {mt : Nat} {t : Slice}
    (ht : WFS h mt t) : WFS (append grow m h s x).1 mt t ∧ h.next ≤ (append grow m h s x).1.next := by
  unfold append
  split
  · refine ⟨⟨ht.len_le, fun hc => ⟨ht.allocated hc, ?_, ht.owner hc⟩⟩, Nat.le_refl _⟩
    by_cases he : t.arr = s.arr
    · simp only [he, put_same, List.length_set]; rw [← he]; exact ht.arr_length hc
    · show (put h.arrs s.arr ((h.arrs s.arr).set s.len x) t.arr).length = t.cap
      rw [put_other _ _ he]; exact ht.arr_length hc
  · refine ⟨⟨ht.len_le, fun hc => ?_⟩, Nat.le_succ _⟩
    have hne : t.arr ≠ h.next := Nat.ne_of_lt (ht.allocated hc)
    exact ⟨Nat.lt_succ_of_lt (ht.allocated hc), by simp only; rw [put_other _ _ hne]; exact ht.arr_length hc,
      by simp only; rw [put_other _ _ hne]; exact ht.owner hc⟩

theorem append_frame (grow : Nat → Nat) (m : Nat) (h : Heap) (s : Slice) (x : Nat) {mt : Nat} {t : Slice}
    (ht : WFS h mt t) (hs : WFS h m s)
    (hsep : s.len < s.cap → 0 < t.cap → t.arr = s.arr → mt = m → t.len ≤ s.len) :
    view (append grow m h s x).1 t = view h t := by
  by_cases hc : t.cap = 0
  · rw [view_nil_of_cap0 _ t ht.len_le hc, view_nil_of_cap0 _ t ht.len_le hc]
  · have hc' : 0 < t.cap := Nat.pos_of_ne_zero hc
    unfold append
    split
    · rename_i hlt
      simp only [view]
      by_cases he : t.arr = s.arr
      · rw [he, put_same, List.take_set_of_le (hsep hlt hc' he (ht.owner_eq hs hc' (Nat.zero_lt_of_lt hlt) he))]
      · rw [put_other _ _ he]
    · simp only [view]
      rw [put_other _ _ (Nat.ne_of_lt (ht.allocated hc'))]

theorem append_self (grow : Nat → Nat) (m : Nat) (h : Heap) (s : Slice) (x : Nat) (hs : WFS h m s) :
    view (append grow m h s x).1 (append grow m h s x).2 = view h s ++ [x] ∧
    WFS (append grow m h s x).1 m (append grow m h s x).2 ∧
    (append grow m h s x).2.len = s.len + 1 ∧
    ((s.len < s.cap ∧ (append grow m h s x).2.arr = s.arr) ∨
     (¬ s.len < s.cap ∧ (append grow m h s x).2.arr = h.next)) := by
  unfold append
  split
  · rename_i hlt
    have hc : 0 < s.cap := Nat.zero_lt_of_lt hlt
    have h2 := hs.arr_length hc
    refine ⟨?_, ⟨hlt, fun _ => ⟨hs.allocated hc, by simp only [put_same, List.length_set]; exact h2,
      hs.owner hc⟩⟩, rfl, Or.inl ⟨hlt, rfl⟩⟩
    simp only [view, put_same]
    have hlen : s.len < (h.arrs s.arr).length := h2 ▸ hlt
    rw [List.take_add_one, List.take_set_of_le (Nat.le_refl _)]
    simp [hlen]
  · rename_i hge
    have hv := view_length hs
    have hcle : s.len + 1 ≤ max (grow s.cap) (s.len + 1) := Nat.le_max_right ..
    generalize max (grow s.cap) (s.len + 1) = c at hcle ⊢
    refine ⟨?_, ⟨hcle, fun _ => ⟨Nat.lt_succ_self _, ?_, put_same ..⟩⟩, rfl, Or.inr ⟨hge, rfl⟩⟩
    · simp only [view, put_same] at hv ⊢
      rw [List.append_cons, List.take_left' (by simp [hv])]
    · simp only [put_same, List.length_append, List.length_cons, List.length_replicate, hv]
      rw [Nat.add_left_comm]; exact Nat.sub_add_cancel hcle

/-- `s` lives on arrays allocated at or after `b` (or is a nil slice). -/
def PrivateFrom (b : Nat) (s : Slice) : Prop := 0 < s.cap → b ≤ s.arr

theorem build_spec (grow : Nat → Nat) (m : Nat) (b : Nat) (xs : List Nat) (h : Heap) (s : Slice)
    (hs : WFS h m s) (hp : PrivateFrom b s) (hb : b ≤ h.next) :
    WFS (build grow m h s xs).1 m (build grow m h s xs).2 ∧
    PrivateFrom b (build grow m h s xs).2 ∧
    view (build grow m h s xs).1 (build grow m h s xs).2 = view h s ++ xs ∧
    (build grow m h s xs).2.len = s.len + xs.length ∧
    (∀ mt t, WFS h mt t → (0 < t.cap → t.arr < b) →
      WFS (build grow m h s xs).1 mt t ∧ view (build grow m h s xs).1 t = view h t) := by
  induction xs generalizing h s with
  | nil => exact ⟨hs, hp, by simp [build], by simp [build], fun mt t ht _ => ⟨ht, rfl⟩⟩
  | cons x rest ih =>
    obtain ⟨hv1, hw1, hl1, harr⟩ := append_self grow m h s x hs
    have hnext := (append_mono grow m h s x hs).2
    have hp1 : PrivateFrom b (append grow m h s x).2 := by
      intro _
      rcases harr with ⟨hlt, he⟩ | ⟨_, he⟩
      · rw [he]; exact hp (Nat.zero_lt_of_lt hlt)
      · rw [he]; exact hb
    obtain ⟨a1, a2, a3, a4, a5⟩ := ih (append grow m h s x).1 (append grow m h s x).2 hw1 hp1 (Nat.le_trans hb hnext)
    simp only [build]
    refine ⟨a1, a2, by rw [a3, hv1]; simp, by rw [a4, hl1]; exact Nat.succ_add_eq_add_succ .., ?_⟩
    intro mt t ht hbelow
    have hw := (append_mono grow m h s x ht).1
    have hf : view (append grow m h s x).1 t = view h t := by
      apply append_frame grow m h s x ht hs
      intro hlt hc he _
      -- `t` lies below `b`, `s` at or above it: they are not on one array
      exact absurd (he ▸ hbelow hc) (Nat.not_lt.mpr (hp (Nat.zero_lt_of_lt hlt)))
    obtain ⟨b1, b2⟩ := a5 mt t hw hbelow
    exact ⟨b1, by rw [b2, hf]⟩

/-- the writer's invariant while it works on its clone `W` of the latest published map. -/
structure WInv (h : Heap) (W : HMap) (pubs : List HMap) : Prop where
  wfW : ∀ m, WFS h m (W m)
  wfP : ∀ P ∈ pubs, ∀ m, WFS h m (P m)
  -- the idea of the proof: a published header on the working slice's array is never the longer one, so an
  -- in-place append, which writes at the working `len`, lands outside every published view
  mono : ∀ P ∈ pubs, ∀ m, 0 < (P m).cap → 0 < (W m).cap → (P m).arr = (W m).arr → (P m).len ≤ (W m).len

theorem wfs_nil (h : Heap) (m : Nat) : WFS h m nilSlice := ⟨Nat.le_refl _, fun hc => absurd hc (by decide)⟩

/-- last conjunct: the working views change as the registry's lists do. -/
theorem micro_spec (grow : Nat → Nat) (h : Heap) (W : HMap) (pubs : List HMap) (μ : Micro)
    (hi : WInv h W pubs) :
    WInv (micro grow h W μ).1 (micro grow h W μ).2 pubs ∧
    (∀ P ∈ pubs, ∀ m, view (micro grow h W μ).1 (P m) = view h (P m)) ∧
    (∀ m, view (micro grow h W μ).1 ((micro grow h W μ).2 m) =
      match μ with
      | .app m' x => if m = m' then view h (W m) ++ [x] else view h (W m)
      | .rem m' x => if m = m' then (view h (W m)).filter (fun y => y ≠ x) else view h (W m)) := by
  cases μ with
  | app m' x =>
    simp only [micro]
    obtain ⟨hv1, hw1, hl1, harr⟩ := append_self grow m' h (W m') x (hi.wfW m')
    refine ⟨⟨?_, ?_, ?_⟩, ?_, ?_⟩
    · intro m
      by_cases hm : m = m'
      · subst hm; rw [put_same]; exact hw1
      · rw [put_other _ _ hm]; exact (append_mono grow m' h (W m') x (hi.wfW m)).1
    · intro P hP m; exact (append_mono grow m' h (W m') x (hi.wfP P hP m)).1
    · intro P hP m hc hcw he
      by_cases hm : m = m'
      · subst hm
        rw [put_same] at hcw he ⊢
        rcases harr with ⟨hlt, ha⟩ | ⟨_, ha⟩
        · rw [ha] at he
          rw [hl1]; exact Nat.le_succ_of_le (hi.mono P hP m hc (Nat.zero_lt_of_lt hlt) he)
        · exact absurd (he.trans ha) (Nat.ne_of_lt ((hi.wfP P hP m).allocated hc))
      · rw [put_other _ _ hm] at hcw he ⊢
        exact hi.mono P hP m hc hcw he
    · intro P hP m
      refine append_frame grow m' h (W m') x (hi.wfP P hP m) (hi.wfW m') fun hlt hc he hm => ?_
      subst hm
      exact hi.mono P hP _ hc (Nat.zero_lt_of_lt hlt) he
    · intro m
      by_cases hm : m = m'
      · subst hm; simp only [put_same, if_true]; exact hv1
      · simp only [put_other _ _ hm, hm, if_false]
        exact append_frame grow m' h (W m') x (hi.wfW m) (hi.wfW m') fun _ _ _ he => absurd he hm
  | rem m' x =>
    simp only [micro]
    obtain ⟨b1, b2, b3, b4, b5⟩ := build_spec grow m' h.next
      ((view h (W m')).filter (fun y => y ≠ x)) h nilSlice (wfs_nil h m') (fun hc => absurd hc (by decide)) (Nat.le_refl _)
    replace b5 := fun {mt t} (ht : WFS h mt t) => b5 mt t ht ht.allocated
    refine ⟨⟨?_, ?_, ?_⟩, fun P hP m => (b5 (hi.wfP P hP m)).2, ?_⟩
    · intro m
      by_cases hm : m = m'
      · subst hm; rw [put_same]
        split
        · exact wfs_nil _ _
        · exact b1
      · rw [put_other _ _ hm]; exact (b5 (hi.wfW m)).1
    · intro P hP m; exact (b5 (hi.wfP P hP m)).1
    · intro P hP m hc hcw he
      by_cases hm : m = m'
      · subst hm
        rw [put_same] at hcw he
        split at hcw
        · exact absurd hcw (by decide)
        · rename_i hne
          simp only [hne, if_false] at he
          exact absurd (he ▸ (hi.wfP P hP m).allocated hc) (Nat.not_lt.mpr (b2 hcw))
      · rw [put_other _ _ hm] at hcw he ⊢
        exact hi.mono P hP m hc hcw he
    · intro m
      by_cases hm : m = m'
      · subst hm
        simp only [put_same, if_true]
        split
        · rename_i h0
          exact (List.eq_nil_of_length_eq_zero (Nat.add_eq_zero_iff.mp (b4.symm.trans h0)).2).symm
        · exact b3
      · simp only [put_other _ _ hm, hm, if_false]
        exact (b5 (hi.wfW m)).2

theorem micros_spec (grow : Nat → Nat) (pubs : List HMap) (μs : List Micro) (h : Heap) (W : HMap)
    (hi : WInv h W pubs) :
    WInv (micros grow h W μs).1 (micros grow h W μs).2 pubs ∧
    (∀ P ∈ pubs, ∀ m, view (micros grow h W μs).1 (P m) = view h (P m)) := by
  induction μs generalizing h W with
  | nil => exact ⟨hi, fun _ _ _ => rfl⟩
  | cons μ rest ih =>
    obtain ⟨h1, h2, _⟩ := micro_spec grow h W pubs μ hi
    obtain ⟨h3, h4⟩ := ih _ _ h1
    exact ⟨h3, fun P hP m => (h4 P hP m).trans (h2 P hP m)⟩

/-- between calls: `WInv` with the latest published map as the working one. -/
structure Inv (s : Sys) : Prop where
  wfP : ∀ P ∈ s.pubs, ∀ m, WFS s.heap m (P m)
  mono : ∀ P ∈ s.pubs, ∀ m, 0 < (P m).cap → 0 < (latest s m).cap → (P m).arr = (latest s m).arr →
    (P m).len ≤ (latest s m).len

theorem inv_init : Inv Sys.init := ⟨nofun, nofun⟩

theorem call_spec (grow : Nat → Nat) (s : Sys) (c : List Micro × Bool) (hi : Inv s) :
    Inv (call grow s c) ∧ ∀ P ∈ s.pubs, ∀ m, view (call grow s c).heap (P m) = view s.heap (P m) := by
  have hw : WInv s.heap (latest s) s.pubs := by
    refine ⟨?_, hi.wfP, hi.mono⟩
    intro m
    unfold latest
    cases hp : s.pubs with
    | nil => exact wfs_nil _ _
    | cons L rest => simp only [List.headD_cons]; exact hi.wfP L (by simp [hp]) m
  obtain ⟨h1, h2⟩ := micros_spec grow s.pubs c.1 s.heap (latest s) hw
  refine ⟨?_, h2⟩
  unfold call
  cases hc : c.2 with
  | false => exact ⟨h1.wfP, hi.mono⟩
  | true =>
    exact ⟨List.forall_mem_cons.mpr ⟨h1.wfW, h1.wfP⟩,
      List.forall_mem_cons.mpr ⟨fun _ _ _ _ => Nat.le_refl _, h1.mono⟩⟩

theorem calls_spec (grow : Nat → Nat) (cs : List (List Micro × Bool)) (s : Sys) (hi : Inv s) :
    Inv (calls grow s cs) ∧ ∀ P ∈ s.pubs, ∀ m, view (calls grow s cs).heap (P m) = view s.heap (P m) := by
  induction cs generalizing s with
  | nil => exact ⟨hi, fun _ _ _ => rfl⟩
  | cons c rest ih =>
    obtain ⟨h1, h2⟩ := call_spec grow s c hi
    obtain ⟨h3, h4⟩ := ih (call grow s c) h1
    refine ⟨h3, fun P hP m => (h4 P ?_ m).trans (h2 P hP m)⟩
    -- a call drops no published map
    unfold call; simp only; split
    · exact List.mem_cons_of_mem _ hP
    · exact hP

end Larking.Cow
