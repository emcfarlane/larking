import Larking.Model.Pool
import Larking.Lemmas.Registry
namespace Larking.Pool
open Larking.Registry (put put_same put_other)

theorem put2_s {α : Type} (f : Nat → Nat → α) (i k : Nat) (v : α) : put2 f i k v i k = v := by simp [put2]
theorem put2_o {α : Type} (f : Nat → Nat → α) (i k a b : Nat) (v : α) (h : ¬ (a = i ∧ b = k)) :
    put2 f i k v a b = f a b := by simp [put2, h]

theorem put2_row {α : Type} {f : Nat → Nat → α} {i k j : Nat} {v : α} (h : j ≠ i) : put2 f i k v j = f j :=
  funext fun b => put2_o f i k j b v fun hc => h hc.1

theorem put2_none {f : Nat → Nat → Option Nat} {i k a b o : Nat} (h : put2 f i k none a b = some o) :
    ¬(a = i ∧ b = k) ∧ f a b = some o := by
  simp only [put2] at h
  split at h
  · cases h
  · exact ⟨‹_›, h⟩

/-- the discipline state of a request's slots, read off its row of the system state. -/
def stF (sl vw : Nat → Option Nat) : Nat → Nat := fun k =>
  match sl k with
  | none => 0
  | some _ => if (vw k).isSome then 2 else 1

theorem stF_get {sl vw : Nat → Nat → Option Nat} {i k o : Nat} :
    stF (put2 sl i k (some o) i) (put2 vw i k none i) = put (stF (sl i) (vw i)) k 1 := by
  funext k'
  by_cases hk : k' = k
  · subst hk; simp [stF, put2, put]
  · simp [stF, put2, put, hk]

theorem stF_write {sl vw : Nat → Nat → Option Nat} {i k o v : Nat} (hs : sl i k = some o) :
    stF (sl i) (put2 vw i k (some v) i) = put (stF (sl i) (vw i)) k 2 := by
  funext k'
  by_cases hk : k' = k
  · subst hk; simp [stF, put2, put, hs]
  · simp [stF, put2, put, hk]

theorem stF_put {sl vw : Nat → Nat → Option Nat} {i k : Nat} :
    stF (put2 sl i k none i) (vw i) = put (stF (sl i) (vw i)) k 0 := by
  funext k'
  by_cases hk : k' = k
  · subst hk; simp [stF, put2, put]
  · simp [stF, put2, put, hk]

theorem stF_pos {sl vw : Nat → Option Nat} {k : Nat} (h : stF sl vw k ≠ 0) : ∃ o, sl k = some o := by
  unfold stF at h
  cases hs : sl k with
  | none => simp [hs] at h
  | some o => exact ⟨o, rfl⟩

theorem stF_two {sl vw : Nat → Option Nat} {k : Nat} (h : stF sl vw k = 2) : ∃ o v, sl k = some o ∧ vw k = some v := by
  unfold stF at h
  cases hs : sl k with
  | none => simp [hs] at h
  | some o =>
    cases hv : vw k with
    | none => simp [hs, hv] at h
    | some v => exact ⟨o, v, rfl, rfl⟩

/-- `agree` is the isolation idea: an object a request holds contains what that request last wrote into it —
by `excl` nobody else holds it, so no other `write` reaches it; `reads` keeps what `agree` gave each read. -/
structure Inv (s : Sys) : Prop where
  alloc : ∀ i k o, s.slot i k = some o → o < s.next ∧ s.free o = false
  excl : ∀ i k j k' o, s.slot i k = some o → s.slot j k' = some o → i = j ∧ k = k'
  agree : ∀ i k o v, s.slot i k = some o → s.view i k = some v → s.objs o = v
  disciplined : ∀ i, disc (s.prog i) (stF (s.slot i) (s.view i)) = true
  reads : ∀ i, ∀ p ∈ s.log i, p.2 = some p.1

theorem inv_init (progs : Nat → List Ev) (h : ∀ i, disc (progs i) (fun _ => 0) = true) :
    Inv (Sys.init progs) := by
  constructor <;> simp [Sys.init]
  exact h  -- `stF` of the empty rows unfolds to `fun _ => 0`

/-- the `disciplined` field after request `i` took an event. -/
theorem disc_step {s : Sys} (hi : Inv s) {i : Nat} {r : List Ev} {sl vw : Nat → Nat → Option Nat}
    {st : Nat → Nat} (hsl : ∀ j, j ≠ i → sl j = s.slot j) (hvw : ∀ j, j ≠ i → vw j = s.view j)
    (hst : stF (sl i) (vw i) = st) (hd : disc r st = true) (j : Nat) :
    disc (put s.prog i r j) (stF (sl j) (vw j)) = true := by
  by_cases hj : j = i
  · subst hj; rw [put_same, hst]; exact hd
  · rw [put_other _ _ hj, hsl j hj, hvw j hj]; exact hi.disciplined j

/-- a Get that hands request `i` the object `o` (free or fresh). -/
theorem get_inv (s : Sys) (i k o : Nat) (r : List Ev) (next' : Nat) (hi : Inv s)
    (hd : disc r (put (stF (s.slot i) (s.view i)) k 1) = true)
    (hnew : ∀ j k', s.slot j k' ≠ some o) (ho : o < next') (hn : s.next ≤ next') :
    Inv { s with prog := put s.prog i r, free := put s.free o false, next := next',
                 slot := put2 s.slot i k (some o), view := put2 s.view i k none } := by
  constructor
  · intro j k' o' hs
    simp only [put2] at hs
    split at hs
    · injection hs with hs; subst hs; exact ⟨ho, put_same ..⟩
    · have ⟨h1, h2⟩ := hi.alloc j k' o' hs
      have hne : o' ≠ o := fun he => hnew j k' (he ▸ hs)
      exact ⟨Nat.lt_of_lt_of_le h1 hn, by simp only; rw [put_other _ _ hne]; exact h2⟩
  · intro j k' j' k'' o' h1 h2
    simp only [put2] at h1 h2
    split at h1 <;> split at h2
    · rename_i a b; exact ⟨a.1.trans b.1.symm, a.2.trans b.2.symm⟩
    · injection h1 with h1; subst h1; exact absurd h2 (hnew j' k'')
    · injection h2 with h2; subst h2; exact absurd h1 (hnew j k')
    · exact hi.excl j k' j' k'' o' h1 h2
  · intro j k' o' v hs hv
    simp only [put2] at hs hv
    split at hs
    · rename_i hc; simp [hc] at hv
    · rename_i hc; simp only [hc, if_false] at hv; exact hi.agree j k' o' v hs hv
  · -- `simp only` reduces the projections of the updated record; left to `exact`, the unifier carries the record
    -- through every argument of `disc_step`
    simp only; exact disc_step hi (fun _ => put2_row) (fun _ => put2_row) stF_get hd
  · exact hi.reads

/-- a `put` or a `drop`: `free` changes at most on the object that was in the slot. -/
theorem clear_inv {s : Sys} (hi : Inv s) {i k o : Nat} {r : List Ev} {free' : Nat → Bool}
    (hs : s.slot i k = some o) (hfree : ∀ o', o' ≠ o → free' o' = s.free o')
    (hd : disc r (put (stF (s.slot i) (s.view i)) k 0) = true) :
    Inv { s with prog := put s.prog i r, free := free', slot := put2 s.slot i k none } := by
  have hne : ∀ {j k' o'}, ¬(j = i ∧ k' = k) → s.slot j k' = some o' → o' ≠ o :=
    fun hc hs' he => hc (hi.excl _ _ i k _ (he ▸ hs') hs)
  constructor
  · intro j k' o' hs'
    obtain ⟨hc, hs'⟩ := put2_none hs'
    exact ⟨(hi.alloc j k' o' hs').1, (hfree o' (hne hc hs')).trans (hi.alloc j k' o' hs').2⟩
  · intro j k' j' k'' o' h1 h2
    exact hi.excl j k' j' k'' o' (put2_none h1).2 (put2_none h2).2
  · intro j k' o' v hs' hv
    exact hi.agree j k' o' v (put2_none hs').2 hv
  · simp only; exact disc_step hi (fun _ => put2_row) (fun _ _ => rfl) stF_put hd
  · exact hi.reads

theorem step_inv (s : Sys) (i choice : Nat) (hi : Inv s) : Inv (step s i choice) := by
  unfold step
  have hd := hi.disciplined i
  cases hp : s.prog i with
  | nil => exact hi
  | cons e r =>
    rw [hp] at hd
    cases e with
    | get k =>
      simp only [disc, Bool.and_eq_true, beq_iff_eq] at hd
      simp only
      split
      · rename_i hc
        apply get_inv s i k choice r s.next hi hd.2
        · intro j k' hs; have := (hi.alloc j k' choice hs).2; rw [hc.2] at this; cases this
        · exact hc.1
        · exact Nat.le_refl _
      · apply get_inv s i k s.next r (s.next + 1) hi hd.2
        · intro j k' hs; exact Nat.lt_irrefl _ (hi.alloc j k' s.next hs).1
        · exact Nat.lt_succ_self _
        · exact Nat.le_succ _
    | write k v =>
      simp only [disc, Bool.and_eq_true, bne_iff_ne, ne_eq] at hd
      obtain ⟨o, hs⟩ := stF_pos hd.1
      simp only [hs]
      refine ⟨hi.alloc, hi.excl, ?_, ?_, hi.reads⟩
      · intro j k' o' v' hs' hv'
        simp only [put2] at hv'
        simp only
        split at hv'
        · rename_i hc
          cases hv'
          cases (hc.1 ▸ hc.2 ▸ hs').symm.trans hs
          exact put_same ..
        · rename_i hc
          rw [put_other _ _ fun he : o' = o => hc (hi.excl j k' i k o' hs' (he ▸ hs))]
          exact hi.agree j k' o' v' hs' hv'
      · simp only; exact disc_step hi (fun _ _ => rfl) (fun _ => put2_row) (stF_write hs) hd.2
    | read k =>
      simp only [disc, Bool.and_eq_true, beq_iff_eq] at hd
      obtain ⟨o, v, hs, hv⟩ := stF_two hd.1
      simp only [hs]
      refine ⟨hi.alloc, hi.excl, hi.agree, disc_step hi (fun _ _ => rfl) (fun _ _ => rfl) rfl hd.2, ?_⟩
      intro j p hp'
      by_cases hj : j = i
      · subst hj
        simp only [put_same, List.mem_append, List.mem_singleton] at hp'
        rcases hp' with hp' | rfl
        · exact hi.reads j p hp'
        · simp only; rw [hv, hi.agree j k o v hs hv]
      · simp only [put_other _ _ hj] at hp'; exact hi.reads j p hp'
    | put k =>
      simp only [disc, Bool.and_eq_true, bne_iff_ne, ne_eq] at hd
      obtain ⟨o, hs⟩ := stF_pos hd.1
      simp only [hs]
      exact clear_inv hi hs (fun o' he => put_other _ _ he) hd.2
    | putKeep k => cases hd  -- `disc` admits no path with a `putKeep`
    | drop k =>
      simp only [disc, Bool.and_eq_true, bne_iff_ne, ne_eq] at hd
      obtain ⟨o, hs⟩ := stF_pos hd.1
      exact clear_inv hi hs (fun _ _ => rfl) hd.2

theorem run_inv (sched : List (Nat × Nat)) (s : Sys) (hi : Inv s) : Inv (run s sched) :=
  List.foldlRecOn sched _ hi fun s hs p _ => step_inv s p.1 p.2 hs

/-- paths compose: a request is a sequence of calls. -/
theorem disc_append (a b : List Ev) (st : Nat → Nat) :
    disc (a ++ b) st = (disc a st && disc b (final a st)) := by
  induction a generalizing st with
  | nil => simp [disc, final]
  | cons e r ih => cases e <;> simp [disc, final, ih, Bool.and_assoc]

theorem disc_flatten (paths : List (List Ev)) (z : Nat → Nat)
    (h : ∀ p ∈ paths, disc p z = true ∧ final p z = z) : disc paths.flatten z = true := by
  induction paths with
  | nil => simp [disc]
  | cons p rest ih =>
    simp only [List.flatten_cons, disc_append, Bool.and_eq_true]
    obtain ⟨h1, h2⟩ := h p (by simp)
    refine ⟨h1, ?_⟩
    rw [h2]; exact ih (fun q hq => h q (by simp [hq]))

theorem gzReads_released (eofs : List Bool) : gzReads false eofs = [] := by
  induction eofs with
  | nil => rfl
  | cons e r ih => simpa [gzReads, gzRead] using ih

theorem gz_disciplined (eofs : List Bool) (st : Nat → Nat) (h2 : st 0 = 2) :
    disc (gzReads true eofs) st = true := by
  induction eofs with
  | nil => rfl
  | cons e r ih =>
    cases e with
    | true => simp [gzReads, gzRead, gzReads_released, disc, h2]
    | false => simpa [gzReads, gzRead, disc, h2] using ih

end Larking.Pool
