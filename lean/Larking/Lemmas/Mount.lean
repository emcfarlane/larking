import Larking.Model.Mount
namespace Larking.Mount

theorem pick_eq_none_iff (t : List (Path × Target)) (path : Path) :
    pick t path = none ↔ ∀ e ∈ t, patMatches e.1 path = false := by
  induction t with
  | nil => simp [pick]
  | cons x rest ih =>
    simp only [pick, List.forall_mem_cons, ← ih]
    by_cases hm : patMatches x.1 path = true
    · simp only [hm, if_true]
      cases pick rest path with
      | none => simp
      | some w => simp only; split <;> simp
    · simp [hm]

theorem pick_some (t : List (Path × Target)) (path : Path) (e : Path × Target) (h : pick t path = some e) :
    e ∈ t ∧ patMatches e.1 path = true ∧
      ∀ e' ∈ t, patMatches e'.1 path = true → e'.1.length ≤ e.1.length := by
  induction t generalizing e with
  | nil => cases h
  | cons x rest ih =>
    simp only [pick] at h
    by_cases hm : patMatches x.1 path = true
    · simp only [hm, if_true] at h
      cases hr : pick rest path with
      | none =>
        simp only [hr] at h
        cases h
        refine ⟨List.mem_cons_self, hm, List.forall_mem_cons.mpr ⟨fun _ => Nat.le_refl _, fun e' he' hm' => ?_⟩⟩
        rw [(pick_eq_none_iff rest path).mp hr e' he'] at hm'; cases hm'
      | some w =>
        simp only [hr] at h
        obtain ⟨hw1, hw2, hw3⟩ := ih w hr
        split at h <;> cases h
        · exact ⟨List.mem_cons_of_mem _ hw1, hw2, List.forall_mem_cons.mpr ⟨fun _ => Nat.le_of_lt ‹_›, hw3⟩⟩
        · exact ⟨List.mem_cons_self, hm, List.forall_mem_cons.mpr
            ⟨fun _ => Nat.le_refl _, fun e' he' hm' => Nat.le_trans (hw3 e' he' hm') (Nat.le_of_not_lt ‹_›)⟩⟩
    · simp only [hm] at h
      obtain ⟨h1, h2, h3⟩ := ih e h
      exact ⟨List.mem_cons_of_mem _ h1, h2, List.forall_mem_cons.mpr ⟨fun hx => absurd hx hm, h3⟩⟩

theorem pick_unique_best (t : List (Path × Target)) (path : Path) (m : Path × Target)
    (hm : m ∈ t) (hmm : patMatches m.1 path = true)
    (hbest : ∀ e ∈ t, patMatches e.1 path = true → e = m ∨ e.1.length < m.1.length) :
    pick t path = some m := by
  cases hp : pick t path with
  | none => rw [(pick_eq_none_iff t path).mp hp m hm] at hmm; cases hmm
  | some e =>
    obtain ⟨h1, h2, h3⟩ := pick_some t path e hp
    rcases hbest e h1 h2 with h | h
    · rw [h]
    · exact absurd h (Nat.not_lt.mpr (h3 m hm hmm))

end Larking.Mount
