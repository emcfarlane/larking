import Larking.Model.Base64
namespace Larking.Base64

theorem dec_enc (url : Bool) {n : Nat} (h : n < 64) : decChar url (encChar url n) = some n := by
  have : ∀ n : Fin 64, decChar url (encChar url n.val) = some n.val := by cases url <;> decide
  exact this ⟨n, h⟩

theorem enc_ne (url : Bool) {n : Nat} (h : n < 64) {c : UInt8} (hc : decChar url c = none) :
    encChar url n ≠ c := by
  intro e; rw [← e, dec_enc url h] at hc; cases hc

theorem enc_not_pad (url : Bool) {n : Nat} (h : n < 64) : (encChar url n == padByte) = false :=
  beq_eq_false_iff_ne.mpr (enc_ne url h (by cases url <;> rfl))

theorem enc_not_newline (url : Bool) {n : Nat} (h : n < 64) : isNewline (encChar url n) = false := by
  have h10 := enc_ne url h (c := 10) (by cases url <;> rfl)
  have h13 := enc_ne url h (c := 13) (by cases url <;> rfl)
  simp [isNewline, h10, h13]

theorem pack_lt {hi lo k m : Nat} (hhi : hi < k) (hlo : lo < m) : hi * m + lo < k * m :=
  Nat.lt_of_lt_of_le (Nat.add_lt_add_left hlo _) (Nat.succ_mul hi m ▸ Nat.mul_le_mul_right m hhi)
theorem pack_div {m lo : Nat} (hi : Nat) (h : lo < m) : (hi * m + lo) / m = hi := by
  rw [Nat.mul_comm, Nat.mul_add_div (Nat.zero_lt_of_lt h), Nat.div_eq_of_lt h, Nat.add_zero]
theorem pack_mod {m lo : Nat} (hi : Nat) (h : lo < m) : (hi * m + lo) % m = lo := by
  rw [Nat.mul_add_mod_self_right, Nat.mod_eq_of_lt h]

theorem div16_lt (a : UInt8) : a.toNat / 16 < 16 := Nat.div_lt_of_lt_mul a.toNat_lt
theorem div64_lt (a : UInt8) : a.toNat / 64 < 4 := Nat.div_lt_of_lt_mul a.toNat_lt

theorem q0_lt (a : UInt8) : q0 a < 64 := Nat.div_lt_of_lt_mul a.toNat_lt
theorem q1_lt (a b : UInt8) : q1 a b < 64 := pack_lt (k := 4) (Nat.mod_lt _ (by decide)) (div16_lt b)
theorem q2_lt (a b : UInt8) : q2 a b < 64 := pack_lt (k := 16) (Nat.mod_lt _ (by decide)) (div64_lt b)
theorem q3_lt (a : UInt8) : q3 a < 64 := Nat.mod_lt _ (by decide)

theorem ofNat_toNat_u8 (a : UInt8) : UInt8.ofNat a.toNat = a := by simp

/-- neighbouring sextets hold a byte's two halves; `div_add_mod` joins them. -/
theorem b0_q (a b : UInt8) : b0 (q0 a) (q1 a b) = a :=
  (UInt8.ofNat_eq_iff_mod_eq_toNat _ _).mpr (by
    rw [Nat.mod_mod, q0, q1, pack_div _ (div16_lt b), Nat.div_add_mod', Nat.mod_eq_of_lt a.toNat_lt])
theorem b1_q (a b c : UInt8) : b1 (q1 a b) (q2 b c) = b :=
  (UInt8.ofNat_eq_iff_mod_eq_toNat _ _).mpr (by
    rw [Nat.mod_mod, q1, q2, pack_mod _ (div16_lt b), pack_div _ (div64_lt c), Nat.div_add_mod',
      Nat.mod_eq_of_lt b.toNat_lt])
theorem b2_q (b c : UInt8) : b2 (q2 b c) (q3 c) = c :=
  (UInt8.ofNat_eq_iff_mod_eq_toNat _ _).mpr (by
    rw [Nat.mod_mod, q2, q3, pack_mod _ (div64_lt c), Nat.div_add_mod', Nat.mod_eq_of_lt c.toNat_lt])

theorem encode_all (P : UInt8 → Bool) (url pad : Bool) (hP : ∀ n, n < 64 → P (encChar url n) = true)
    (hpad : P padByte = true) (bs : Bytes) : (encode url pad bs).all P = true := by
  fun_induction encode url pad bs <;>
    simp [*, hP _ (q0_lt _), hP _ (q1_lt _ _), hP _ (q2_lt _ _), hP _ (q3_lt _)]

theorem encode_no_newline (url pad : Bool) (bs : Bytes) :
    (encode url pad bs).filter (fun c => !isNewline c) = encode url pad bs :=
  List.filter_eq_self.mpr fun c hc => List.all_eq_true.mp
    (encode_all (fun c => !isNewline c) url pad (fun n h => by simp [enc_not_newline url h]) (by decide) bs) c hc

theorem zero_toNat : (0 : UInt8).toNat = 0 := rfl

theorem decodeCore_encode (url pad : Bool) (bs : Bytes) :
    decodeCore url pad (encode url pad bs) = some bs := by
  fun_induction encode url pad bs with
  | case1 => rfl
  | case2 a => cases pad <;> simp [decodeCore, dec_enc, q0_lt, q1_lt, b0_q]
  | case3 a b => cases pad <;> simp [decodeCore, dec_enc, enc_not_pad, q0_lt, q1_lt, q2_lt, b0_q, b1_q]
  | case4 a b c rest ih =>
    simp [decodeCore, dec_enc, enc_not_pad, q0_lt, q1_lt, q2_lt, q3_lt, b0_q, b1_q, b2_q, ih]

theorem decode_encode (url pad : Bool) (bs : Bytes) :
    decode url pad (encode url pad bs) = some bs := by
  unfold decode; rw [encode_no_newline, decodeCore_encode]

theorem encode_pad_len (url : Bool) (b : Bytes) : (encode url true b).length % 4 = 0 := by
  fun_induction encode url true b with
  | case4 _ _ _ _ ih => exact (Nat.add_mod_right _ 4).trans ih
  | _ => simp

theorem encode_raw_eq_pad (url : Bool) (b : Bytes) (h : (encode url false b).length % 4 = 0) :
    encode url false b = encode url true b := by
  fun_induction encode url false b with
  | case1 => rfl
  | case2 a => cases h
  | case3 a b => cases h
  | case4 a b c rest ih =>
    simp only [encode]
    rw [ih ((Nat.add_mod_right _ 4).symm.trans h)]

/-- Go's choice of decoder by `len % 4` (`decodeBinHeader`, `parseParam`) is right for either padding. -/
theorem decode_by_len (url pad : Bool) (bs : Bytes) :
    decode url ((encode url pad bs).length % 4 == 0) (encode url pad bs) = some bs := by
  cases h : (encode url pad bs).length % 4 == 0 <;> cases pad
  · exact decode_encode url false bs
  · cases ne_of_beq_false h (encode_pad_len url bs)
  · rw [encode_raw_eq_pad url bs (eq_of_beq h)]; exact decode_encode url true bs
  · exact decode_encode url true bs

end Larking.Base64
