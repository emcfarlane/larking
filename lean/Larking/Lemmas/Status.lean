import Larking.Model.Status
import Larking.Lemmas.Base64
namespace Larking.Status

theorem lookup_large (op : GuardOp) (n : Nat) (t : List Nat) (d c : Nat) (hc : n < c) :
    lookup op n t d c = .ok d := by
  have : op.eval c n = true := by
    cases op
    · exact decide_eq_true hc
    · exact decide_eq_true (Nat.le_of_lt hc)
  rw [lookup, if_pos this]

/-- the mathematical content of `encodeGrpcMessage`: escape byte by byte. -/
def encSimple (needsEsc : UInt8 → Bool) (msg : Bytes) : Bytes :=
  msg.flatMap (fun c => if needsEsc c then pct c else [c])

theorem encLoop_spec (ne : UInt8 → Bool) (rest pending sb : Bytes) (escaped : Bool) :
    let r := encLoop ne rest pending sb escaped
    r.2.1 ++ r.1 = sb ++ pending ++ encSimple ne rest ∧
    r.2.2 = (escaped || rest.any ne) := by
  fun_induction encLoop ne rest pending sb escaped <;> simp_all [encSimple]

theorem encSimple_id (ne : UInt8 → Bool) (msg : Bytes) (h : msg.any ne = false) :
    encSimple ne msg = msg := by
  induction msg with
  | nil => rfl
  | cons c rest ih =>
    simp only [List.any_cons, Bool.or_eq_false_iff] at h
    have := ih h.2
    simp only [encSimple] at this
    simp [encSimple, h.1, this]

theorem encode_eq_simple (ne : UInt8 → Bool) (msg : Bytes) :
    encodeGrpcMessage ne msg = encSimple ne msg := by
  obtain ⟨h1, h2⟩ := encLoop_spec ne msg [] [] false
  show (if (encLoop ne msg [] [] false).2.2 then (encLoop ne msg [] [] false).2.1 ++ (encLoop ne msg [] [] false).1
    else msg) = _
  rw [h1, h2]
  cases h : msg.any ne
  · exact (encSimple_id ne msg h).symm
  · rfl

theorem unhex_hexDigit : ∀ n : Fin 16, unhex (hexDigit n.val) = some n.val := by decide

theorem decode_cons_ne (a : UInt8) (l : Bytes) (h : (a == 37) = false) :
    decodeGrpcMessage (a :: l) = a :: decodeGrpcMessage l := by
  obtain _ | ⟨b, _ | ⟨c, rest⟩⟩ := l
  · rfl
  · rfl
  · simp [decodeGrpcMessage, h]

theorem decode_pct (c : UInt8) (l : Bytes) :
    decodeGrpcMessage (pct c ++ l) = c :: decodeGrpcMessage l := by
  have h1 := unhex_hexDigit ⟨c.toNat / 16, Base64.div16_lt c⟩
  have h2 := unhex_hexDigit ⟨c.toNat % 16, Nat.mod_lt _ (by decide)⟩
  simp only [pct, List.cons_append, List.nil_append, decodeGrpcMessage, h1, h2, Nat.div_add_mod']
  simp

theorem decode_encSimple (ne : UInt8 → Bool) (hpct : ne 37 = true) (msg : Bytes) :
    decodeGrpcMessage (encSimple ne msg) = msg := by
  induction msg with
  | nil => simp [encSimple, decodeGrpcMessage]
  | cons c rest ih =>
    simp only [encSimple, List.flatMap_cons] at ih ⊢
    cases h : ne c
    · have hne : (c == 37) = false := by
        rw [beq_eq_false_iff_ne]; rintro rfl; exact Bool.false_ne_true (h.symm.trans hpct)
      exact (decode_cons_ne _ _ hne).trans (congrArg _ ih)
    · exact (decode_pct c _).trans (congrArg _ ih)

def printable (b : UInt8) : Bool := decide (0x20 ≤ b.toNat ∧ b.toNat ≤ 0x7E)

theorem hexDigit_printable : ∀ n : Fin 16, printable (hexDigit n.val) = true := by decide

theorem pct_printable (c : UInt8) : ∀ b ∈ pct c, printable b = true :=
  List.forall_mem_cons.mpr ⟨by decide, List.forall_mem_cons.mpr
    ⟨hexDigit_printable ⟨c.toNat / 16, Base64.div16_lt c⟩,
      List.forall_mem_singleton.mpr (hexDigit_printable ⟨c.toNat % 16, Nat.mod_lt _ (by decide)⟩)⟩⟩

theorem encSimple_printable (ne : UInt8 → Bool) (hcov : ∀ c, printable c = false → ne c = true)
    (msg : Bytes) : ∀ b ∈ encSimple ne msg, printable b = true := by
  intro b hb
  simp only [encSimple, List.mem_flatMap] at hb
  obtain ⟨c, _, hb⟩ := hb
  by_cases h : ne c
  · rw [if_pos h] at hb; exact pct_printable c b hb
  · rw [if_neg h, List.mem_singleton] at hb
    subst hb
    cases hp : printable b with
    | true => rfl
    | false => exact absurd (hcov b hp) h

theorem encGroups_spec (l : Bytes) :
    (encGroups l).1 ++ Base64.encode false true (encGroups l).2 = Base64.encode false true l := by
  fun_induction encGroups l with
  | case1 a b c rest o l' h ih =>
    simp only [h] at ih
    simp [← ih, Base64.encode]
  | case2 l hl => rfl

theorem encGroups_append (l p : Bytes) :
    (encGroups ((encGroups l).2 ++ p)).2 = (encGroups (l ++ p)).2 ∧
    (encGroups l).1 ++ (encGroups ((encGroups l).2 ++ p)).1 = (encGroups (l ++ p)).1 := by
  fun_induction encGroups l with
  | case1 a b c rest o l' h ih =>
    simp only [h] at ih
    simp only [List.cons_append, encGroups.eq_1]
    constructor
    · exact ih.1
    · simp only [List.append_assoc]; rw [ih.2]
  | case2 l hl => simp

/-- `⟨(encGroups acc).2, (encGroups acc).1⟩` is the writer after `acc` went through it. -/
theorem foldl_write (ws : List Bytes) (acc : Bytes) :
    ws.foldl B64Writer.write ⟨(encGroups acc).2, (encGroups acc).1⟩
      = ⟨(encGroups (acc ++ ws.flatten)).2, (encGroups (acc ++ ws.flatten)).1⟩ := by
  induction ws generalizing acc with
  | nil => simp
  | cons p ws ih =>
    rw [List.foldl_cons, List.flatten_cons, ← List.append_assoc, ← ih]
    simp only [B64Writer.write, (encGroups_append acc p).1, (encGroups_append acc p).2]

theorem textModeOutput_closed (ws : List Bytes) :
    textModeOutput true ws = Base64.encode false true ws.flatten := by
  have := foldl_write ws []
  simp only [textModeOutput, if_true, B64Writer.close]
  rw [show (⟨[], []⟩ : B64Writer) = ⟨(encGroups []).2, (encGroups []).1⟩ from rfl, this]
  exact encGroups_spec ws.flatten

theorem decode_textModeOutput_closed (ws : List Bytes) :
    Base64.decode false true (textModeOutput true ws) = some ws.flatten := by
  rw [textModeOutput_closed]; exact Base64.decode_encode false true _

end Larking.Status
