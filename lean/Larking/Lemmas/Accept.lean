import Larking.Lemmas.LexerComplete
import Larking.Lemmas.Register
/-
  C16, acceptance: a binding of the documented grammar whose field paths and body / response_body selectors
  resolve is accepted by `addBinding` on ANY trie, unless its end node already belongs to another method.
-/
namespace Larking.Trie
open Larking.Lexer

def dottedKeys (d : Dotted) : List Bytes := d.map fun p => runesBytes p.2

theorem fieldKeys_complete {a : Bytes} {d : Dotted} {rest : List Tok}
    (hrest : ∀ t, rest.head? = some t → t.typ ≠ .dot) :
    fieldKeys (⟨.ident, a⟩ :: (toksDotted d ++ rest)) = (a :: dottedKeys d, rest) := by
  induction d generalizing a with
  | nil =>
    obtain _ | ⟨t, rest⟩ := rest
    · rfl
    · exact (if_pos rfl).trans (if_neg (mt beq_iff_eq.1 (hrest t rfl)))
  | cons p d ih =>
    rw [toksDotted_cons, List.cons_append, List.cons_append]
    simp only [fieldKeys, beq_self_eq_true, ↓reduceIte, ih]
    rfl

theorem okPat_simple (s : Simple) : ∀ t ∈ s.toks, okPatTok t = true ∧ t.typ ≠ .varEnd := by
  cases s <;> exact List.forall_mem_singleton.mpr ⟨rfl, nofun⟩

theorem patToks_append {ts : List Tok} (h : ∀ t ∈ ts, okPatTok t = true ∧ t.typ ≠ .varEnd) (rest : List Tok) :
    patToks (ts ++ rest) = (patToks rest).map fun p => (ts ++ p.1, p.2) := by
  induction ts with
  | nil => simp
  | cons t ts ih =>
    have ht := h t (.head _)
    rw [List.cons_append, patToks, if_neg (mt beq_iff_eq.mp ht.2), if_pos ht.1, ih fun x hx => h x (.tail _ hx),
      Option.map_map]
    rfl

theorem okPat_simples (f : Simple) (more : List (Rune × Simple)) :
    ∀ t ∈ toksSimples f more, okPatTok t = true ∧ t.typ ≠ .varEnd := by
  intro t ht
  simp only [toksSimples, List.mem_append, List.mem_flatMap] at ht
  rcases ht with ht | ⟨p, _, ht⟩
  · exact okPat_simple f t ht
  · rcases List.mem_cons.mp ht with rfl | ht
    · exact ⟨rfl, nofun⟩
    · exact okPat_simple p.2 t ht

/-! ### what `addRule` makes of a segment -/

def _root_.Larking.Lexer.VarT.keys (v : VarT) : List Bytes := runesBytes v.ident :: dottedKeys v.dotted

def _root_.Larking.Lexer.VarT.pat (v : VarT) : List Tok :=
  match v.sub with
  | none => [⟨.star, [42]⟩]
  | some (_, f, more) => toksSimples f more

def _root_.Larking.Lexer.Seg.edge : Seg → Edge
  | .simple (.lit run) => .seg (slashB ++ runesBytes run)
  | .simple (.star r) => .var ⟨r.bytes, [⟨.star, r.bytes⟩]⟩
  | .simple (.starstar r1 r2) => .var ⟨r1.bytes ++ r2.bytes, [⟨.starstar, r1.bytes ++ r2.bytes⟩]⟩
  | .var v => .var ⟨toksString v.pat, v.pat⟩

def _root_.Larking.Lexer.Seg.fds (resolve : List Bytes → Option Nat) : Seg → List (Option Nat)
  | .simple (.lit _) => []
  | .simple _ => [none]
  | .var v => [resolve v.keys]

/-- the field path of a variable segment resolves in the request type. -/
def _root_.Larking.Lexer.Seg.Resolves (resolve : List Bytes → Option Nat) : Seg → Prop
  | .simple _ => True
  | .var v => (resolve v.keys).isSome = true

theorem varPat_complete (v : VarT) (rest : List Tok) :
    varPat (v.subToks ++ ⟨.varEnd, v.rbrace.bytes⟩ :: rest) = .ok (v.pat, rest) := by
  unfold VarT.subToks VarT.pat
  cases v.sub with
  | none => rfl
  | some x =>
    obtain ⟨eq, f, more⟩ := x
    simp [varPat, patToks_append (okPat_simples f more), patToks]

theorem segStep_seg {resolve : List Bytes → Option Nat} {g : Seg} (hr : g.Resolves resolve) (rest : List Tok) :
    segStep resolve (g.toks ++ rest) = .ok (g.edge, g.fds resolve, rest) := by
  cases g with
  | simple s => cases s <;> rfl
  | var v =>
    obtain ⟨fp, hfp⟩ : ∃ fp, resolve (runesBytes v.ident :: dottedKeys v.dotted) = some fp :=
      Option.isSome_iff_exists.mp hr
    have hhead : ∀ t, (v.subToks ++ ⟨.varEnd, v.rbrace.bytes⟩ :: rest).head? = some t → t.typ ≠ .dot := by
      intro t ht
      unfold VarT.subToks at ht
      split at ht <;> cases ht <;> simp
    simp only [Seg.toks, VarT.toks, List.cons_append, List.append_assoc, List.nil_append]
    rw [segStep, fieldKeys_complete hhead, varPat_complete, Seg.fds, VarT.keys, hfp]
    rfl

theorem parseToks_seg {resolve : List Bytes → Option Nat} {g : Seg} (hr : g.Resolves resolve) (sl : Bytes)
    (fuel : Nat) (rest : List Tok) :
    parseToks resolve (fuel + 1) (⟨.slash, sl⟩ :: (g.toks ++ rest)) =
      match parseToks resolve fuel rest with
      | .ok p => .ok ⟨g.edge :: p.edges, g.fds resolve ++ p.varfds⟩
      | .err k => .err k
      | .panic s => .panic s := by
  rw [parseToks_succ, segStep_seg hr]
  rfl

def segsEdges (first : Seg) (more : List (Rune × Seg)) : List Edge := first.edge :: more.map fun p => p.2.edge
def segsFds (resolve : List Bytes → Option Nat) (first : Seg) (more : List (Rune × Seg)) : List (Option Nat) :=
  first.fds resolve ++ more.flatMap fun p => p.2.fds resolve

def _root_.Larking.Lexer.Tmpl.verbEdges (t : Tmpl) : List Edge :=
  match t.verb with
  | none => []
  | some (_, run) => [.seg (colonB ++ runesBytes run)]

def _root_.Larking.Lexer.Tmpl.edges (t : Tmpl) : List Edge := segsEdges t.first t.more ++ t.verbEdges
def _root_.Larking.Lexer.Tmpl.fds (resolve : List Bytes → Option Nat) (t : Tmpl) : List (Option Nat) :=
  segsFds resolve t.first t.more

def _root_.Larking.Lexer.Tmpl.Resolves (resolve : List Bytes → Option Nat) (t : Tmpl) : Prop :=
  t.first.Resolves resolve ∧ ∀ p ∈ t.more, p.2.Resolves resolve

theorem parseToks_tail (resolve : List Bytes → Option Nat) (t : Tmpl) (fuel : Nat) :
    parseToks resolve (fuel + 1) (t.verbToks ++ [⟨.eof, []⟩]) = .ok ⟨t.verbEdges, []⟩ := by
  unfold Tmpl.verbToks Tmpl.verbEdges
  cases t.verb <;> rfl

theorem parseToks_items {resolve : List Bytes → Option Nat} {tail : List Tok} {tailEdges : List Edge}
    (htail : ∀ k, parseToks resolve (k + 1) tail = .ok ⟨tailEdges, []⟩) {items : List (Rune × Seg)}
    (hr : ∀ p ∈ items, p.2.Resolves resolve) {fuel : Nat} (hfuel : items.length < fuel) :
    parseToks resolve fuel ((items.flatMap fun p => ⟨.slash, p.1.bytes⟩ :: p.2.toks) ++ tail)
      = .ok ⟨(items.map fun p => p.2.edge) ++ tailEdges, items.flatMap fun p => p.2.fds resolve⟩ := by
  induction items generalizing fuel with
  | nil =>
    obtain _ | fuel := fuel
    · cases hfuel
    exact htail fuel
  | cons p items ih =>
    obtain _ | fuel := fuel
    · cases hfuel
    rw [List.flatMap_cons, List.cons_append, List.cons_append, List.append_assoc, parseToks_seg (hr p (.head _)),
      ih (fun q hq => hr q (.tail _ hq)) (Nat.lt_of_succ_lt_succ hfuel)]
    rfl

theorem parseToks_tmpl (resolve : List Bytes → Option Nat) (t : Tmpl) (hr : t.Resolves resolve) (fuel : Nat)
    (hfuel : t.more.length + 2 ≤ fuel) :
    parseToks resolve fuel t.toks = .ok ⟨t.edges, t.fds resolve⟩ :=
  parseToks_items (parseToks_tail resolve t) (items := (t.slash, t.first) :: t.more) (List.forall_mem_cons.2 hr) hfuel

/-- the fuel `addRule`'s token loop has (one more than the tokens) covers the template's segments. -/
theorem _root_.Larking.Lexer.Tmpl.more_length_le (t : Tmpl) : t.more.length + 2 ≤ t.toks.length + 1 := by
  have : t.more.length ≤ (toksSegs t.first t.more).length := by
    induction t.more with
    | nil => exact Nat.zero_le _
    | cons p more ih => simp only [toksSegs, List.flatMap_cons, List.length_append, List.length_cons] at ih ⊢; omega
  simp only [Tmpl.toks, List.length_cons, List.length_append]; omega

/-- `insertAt` adds nothing to what can go wrong at the end of the way. -/
theorem insertAt_outcome (P : Outcome Node → Prop) (hP : ∀ e, P (.err e) → True)
    (f : Node → Outcome Node) (hf : ∀ n, (∃ n', f n = .ok n') ∨ f n = .err "duplicate-rule") :
    ∀ (edges : List Edge) (n : Node), (∃ n', insertAt n edges f = .ok n') ∨ insertAt n edges f = .err "duplicate-rule" := by
  intro edges
  induction edges with
  | nil => exact hf
  | cons e edges ih =>
    intro n
    rw [insertAt_cons]
    rcases ih (child n e) with ⟨c, hc⟩ | hc <;> rw [hc]
    · exact Or.inl ⟨_, rfl⟩
    · exact Or.inr rfl

theorem register_outcome (n : Node) (verb : Bytes) (mid : Nat) (m : Meth) :
    (∃ n', register n verb mid (fun _ => .ok m) = .ok n') ∨
      register n verb mid (fun _ => .ok m) = .err "duplicate-rule" := by
  simp only [register]
  fun_cases registerCore n verb mid (fun _ => .ok m) with
  | case1 => exact .inr rfl
  | case2 | case3 | case4 => exact .inl ⟨_, rfl⟩
  | case5 | case6 => contradiction

theorem addBinding_tmpl {cap : Nat} {resolve : List Bytes → Option Nat} {n : Node} {b : Binding} {mid : Nat}
    {t : Tmpl} (ht : t.Wf) (hb : b.tmpl = t.render) (hcap : t.toks.length ≤ cap)
    (hres : t.Resolves resolve) (hbody : b.bodyOk = true) (hresp : b.respOk = true) :
    addBinding cap resolve n b mid =
      insertAt n t.edges fun node => register node b.verb mid fun _ => .ok ⟨mid, t.fds resolve, b.rule⟩ := by
  have hm : methOf b mid ⟨t.edges, t.fds resolve⟩ = fun _ => .ok ⟨mid, t.fds resolve, b.rule⟩ :=
    funext fun _ => by simp only [methOf, hbody, hresp, Bool.not_true, Bool.false_eq_true, if_false]
  rw [addBinding_eq (hb ▸ lexTemplate_complete cap t ht hcap) (parseToks_tmpl resolve t hres _ t.more_length_le), hm]

/-- a binding is *valid*: of the grammar, resolvable, within the token array. -/
def ValidBinding (cap : Nat) (resolve : List Bytes → Option Nat) (b : Binding) : Prop :=
  ∃ t : Tmpl, t.Wf ∧ b.tmpl = t.render ∧ t.toks.length ≤ cap ∧ t.Resolves resolve ∧
    b.bodyOk = true ∧ b.respOk = true

theorem valid_binding_accepted {cap : Nat} {resolve : List Bytes → Option Nat} {b : Binding}
    (hv : ValidBinding cap resolve b) (n : Node) (mid : Nat) :
    (∃ n', addBinding cap resolve n b mid = .ok n') ∨ addBinding cap resolve n b mid = .err "duplicate-rule" := by
  obtain ⟨t, ht, hb, hcap, hres, hbody, hresp⟩ := hv
  rw [addBinding_tmpl ht hb hcap hres hbody hresp]
  exact insertAt_outcome (fun _ => True) (fun _ _ => trivial) _
    (fun node => register_outcome node b.verb mid _) _ n

theorem addAdditional_accepted {cap : Nat} {resolve : List Bytes → Option Nat} {adds : List (Binding × Bool)}
    (h : ∀ p ∈ adds, p.2 = false ∧ ValidBinding cap resolve p.1) (mid : Nat) (n : Node) :
    (∃ n', addAdditional cap resolve mid n adds = .ok n') ∨
      addAdditional cap resolve mid n adds = .err "duplicate-rule" := by
  induction adds generalizing n with
  | nil => exact Or.inl ⟨n, rfl⟩
  | cons p adds ih =>
    obtain ⟨b, nested⟩ := p
    obtain ⟨rfl, hv⟩ : nested = false ∧ _ := h (b, nested) (.head _)
    rw [addAdditional, if_neg Bool.false_ne_true]
    rcases valid_binding_accepted hv n mid with ⟨n', h1⟩ | h1
    · rw [h1]; exact ih (fun q hq => h q (.tail _ hq)) n'
    · rw [h1]; exact Or.inr rfl

theorem valid_rule_accepted {cap : Nat} {resolve : List Bytes → Option Nat} {r : Rule}
    (hp : ValidBinding cap resolve r.primary)
    (ha : ∀ p ∈ r.additional, p.2 = false ∧ ValidBinding cap resolve p.1) (n : Node) (mid : Nat) :
    (∃ n', addRule cap resolve n r mid = .ok n') ∨ addRule cap resolve n r mid = .err "duplicate-rule" := by
  unfold addRule
  rcases valid_binding_accepted hp n mid with ⟨n', h1⟩ | h1
  · rw [h1]; exact addAdditional_accepted ha mid n'
  · rw [h1]; exact Or.inr rfl

theorem insertAt_empty (f : Node → Outcome Node) (hf : ∃ c, f .empty = .ok c) :
    ∀ (edges : List Edge), ∃ n', insertAt .empty edges f = .ok n' := by
  intro edges
  induction edges with
  | nil => exact hf
  | cons e edges ih =>
    obtain ⟨c, hc⟩ := ih
    rw [insertAt_cons, show child .empty e = .empty by cases e <;> rfl, hc]
    exact ⟨_, rfl⟩

theorem valid_binding_accepted_on_empty {cap : Nat} {resolve : List Bytes → Option Nat} {b : Binding}
    (hv : ValidBinding cap resolve b) (mid : Nat) : ∃ n', addBinding cap resolve .empty b mid = .ok n' := by
  obtain ⟨t, ht, hb, hcap, hres, hbody, hresp⟩ := hv
  rw [addBinding_tmpl ht hb hcap hres hbody hresp]
  apply insertAt_empty
  simp only [Node.empty, register, registerCore, lookupMeth, ite_self]
  cases b.verb == starVerb <;> exact ⟨_, rfl⟩

end Larking.Trie
