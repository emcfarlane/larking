import Larking.Model.Events
namespace Larking.Events

def cntH (l : List Ev) : Nat := (l.filter (· == .outHeader)).length

@[simp] theorem cntH_nil : cntH [] = 0 := rfl

theorem cntH_eq_count (l : List Ev) : cntH l = l.count .outHeader := List.count_eq_length_filter.symm

theorem ops_cons (p : Proto) (a : Act) (rest : List Act) (sent : Bool) :
    ops p (a :: rest) sent =
      ((ops p [a] sent).1 ++ (ops p rest (ops p [a] sent).2).1, (ops p rest (ops p [a] sent).2).2) := by
  simp [ops]

/-- last conjunct: an out-header exactly when `sentHeader` flips, in a form that adds up over a list. -/
theorem ops_one (p : Proto) (a : Act) (sent : Bool) :
    (∀ e ∈ (ops p [a] sent).1, e = .inPayload ∨ e = .outHeader ∨ e = .outPayload) ∧
    (ops p [a] sent).1.count .inPayload = [a].count .recvOk ∧
    (ops p [a] sent).1.count .outPayload = [a].count .sendOk ∧
    (ops p [a] sent).1.count .outHeader + sent.toNat = (ops p [a] sent).2.toNat := by
  cases p <;> cases a <;> cases sent <;> decide

theorem ops_spec (p : Proto) (acts : List Act) (sent : Bool) :
    (∀ e ∈ (ops p acts sent).1, e = .inPayload ∨ e = .outHeader ∨ e = .outPayload) ∧
    (ops p acts sent).1.count .inPayload = acts.count .recvOk ∧
    (ops p acts sent).1.count .outPayload = acts.count .sendOk ∧
    (ops p acts sent).1.count .outHeader + sent.toNat = (ops p acts sent).2.toNat := by
  induction acts generalizing sent with
  | nil => simp [ops]
  | cons a rest ih =>
    obtain ⟨m1, i1, o1, h1⟩ := ops_one p a sent
    obtain ⟨m2, i2, o2, h2⟩ := ih (ops p [a] sent).2
    rw [ops_cons]
    refine ⟨fun e he => (List.mem_append.mp he).elim (m1 e) (m2 e), ?_, ?_, ?_⟩
    · rw [List.count_append, i1, i2, ← List.count_append]; rfl
    · rw [List.count_append, o1, o2, ← List.count_append]; rfl
    · rw [List.count_append, ← h2, ← h1, Nat.add_right_comm, Nat.add_comm]

theorem serve_shape (p : Proto) (acts : List Act) (failed : Bool) {ex : Exit} (h : ex ≠ .beforeHandler) :
    ∃ closing, serve p acts failed ex = [.tag, .inHeader, .begin] ++ (ops p acts false).1 ++ closing ++ [.fin failed] ∧
      (closing = [] ∨ closing = [.outTrailer] ∨
        closing = [.outHeader, .outTrailer] ∧ (ops p acts false).2 = false) := by
  cases p with
  | ws => exact ⟨[], by cases ex <;> simp [serve] at h ⊢, .inl rfl⟩
  | http => exact ⟨[.outTrailer], by cases ex <;> simp [serve] at h ⊢, .inr (.inl rfl)⟩
  | grpc =>
    cases hs : (ops .grpc acts false).2 with
    | true => exact ⟨[.outTrailer], by cases ex <;> simp [serve, hs] at h ⊢, .inr (.inl rfl)⟩
    | false =>
      cases ex with
      | beforeHandler => exact absurd rfl h
      | normal => exact ⟨[.outHeader, .outTrailer], by simp [serve, hs], .inr (.inr ⟨rfl, rfl⟩)⟩
      | ctxDone => exact ⟨[], by simp [serve, hs], .inl rfl⟩

end Larking.Events
