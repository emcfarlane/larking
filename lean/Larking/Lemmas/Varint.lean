import Larking.Model.StreamCodec
namespace Larking.Codec

theorem contByte_toNat (v : Nat) : (UInt8.ofNat (v % 128 + 128)).toNat = v % 128 + 128 :=
  toNat_ofNat_of_lt (by omega)

/-- `k + 1` bytes of fuel left hold any value below `2 ^ (7 * k + 1)`: the last of the ten bytes holds
one bit. -/
theorem getVarintAux_put (k v shift idx : Nat) (rest : Bytes) (hi : idx + k = 9)
    (hv : v < 2 ^ (7 * k + 1)) :
    getVarintAux (k + 1) shift idx (putVarintAux (k + 1) v ++ rest)
      = some (v * 2 ^ shift, idx + (putVarintAux (k + 1) v).length) := by
  induction k generalizing v shift idx with
  | zero =>
    have hlt : v < 128 := by omega
    have h9 : ¬ (v > 1) := by omega
    simp [putVarintAux, getVarintAux, hlt, toNat_ofNat_of_lt (show v < 256 by omega), h9]
  | succ k ih =>
    have hidx : (idx == 9) = false := by simp; omega
    rw [putVarintAux]
    by_cases hlt : v < 128
    · simp [getVarintAux, hlt, toNat_ofNat_of_lt (show v < 256 by omega), hidx]
    · have hv' : v / 128 < 2 ^ (7 * k + 1) := by
        rw [show 7 * (k + 1) + 1 = 7 * k + 1 + 7 from rfl, Nat.pow_add] at hv
        exact Nat.div_lt_of_lt_mul (by rwa [Nat.mul_comm])
      simp only [hlt, if_false, List.cons_append, getVarintAux, contByte_toNat, Nat.not_lt.2 (Nat.le_add_left _ _),
        ih (v / 128) (shift + 7) (idx + 1) ((Nat.add_right_comm ..).trans hi) hv', Option.map_some, List.length_cons,
        Nat.add_sub_cancel, Option.some.injEq, Prod.mk.injEq]
      constructor
      · rw [Nat.pow_add, Nat.mul_comm (2 ^ shift), ← Nat.mul_assoc, ← Nat.add_mul, Nat.mul_comm (v / 128),
          show (2:Nat) ^ 7 = 128 from rfl, Nat.mod_add_div]
      · exact Nat.add_right_comm ..

theorem getVarint_put (v : Nat) (hv : v < 2 ^ 64) (rest : Bytes) :
    getVarint (putVarint v ++ rest) = some (v, (putVarint v).length) := by
  simpa [getVarint, putVarint] using getVarintAux_put 9 v 0 0 rest rfl hv

theorem putVarintAux_shape (fuel v : Nat) (hv : v < 128 ^ fuel) (hf : 0 < fuel) :
    ∃ pre last, putVarintAux fuel v = pre ++ [last] ∧ last.toNat < 128 ∧
      (∀ c ∈ pre, 128 ≤ c.toNat) ∧ pre.length < fuel := by
  induction fuel generalizing v with
  | zero => omega
  | succ fuel ih =>
    unfold putVarintAux
    by_cases hlt : v < 128
    · refine ⟨[], UInt8.ofNat v, by simp [hlt], ?_, by simp, by simp⟩
      rw [toNat_ofNat_of_lt (by omega)]; exact hlt
    · have hf : 0 < fuel := Nat.pos_of_ne_zero (by rintro rfl; exact hlt hv)
      have hv' : v / 128 < 128 ^ fuel := by
        exact Nat.div_lt_of_lt_mul (by rw [Nat.mul_comm]; exact hv)
      obtain ⟨pre, last, hp, hl, hpre, hlen⟩ := ih (v / 128) hv' hf
      refine ⟨UInt8.ofNat (v % 128 + 128) :: pre, last, by simp [hlt, hp], hl,
        List.forall_mem_cons.2 ⟨?_, hpre⟩, by simp; omega⟩
      rw [contByte_toNat]; exact Nat.le_add_left _ _

theorem putVarint_shape (v : Nat) (hv : v < 2 ^ 64) :
    ∃ (pre : Bytes) (last : UInt8), putVarint v = pre ++ [last] ∧ last.toNat < 128 ∧
      (∀ c ∈ pre, 128 ≤ c.toNat) ∧ pre.length < 10 :=
  putVarintAux_shape 10 v (Nat.lt_of_lt_of_le hv (by decide)) (by decide)

end Larking.Codec
