import Larking.Lemmas.TrieDel
/-
  `delRule` removes EXACTLY ONE verb binding of the method per successful call (the pruning of dead nodes
  removes none) and reports false exactly when none is left: calling it until it says false (`delAll`) takes as
  many calls as the method has verb bindings.
-/
namespace Larking.Trie

def countMeth (name : Nat) (ms : List (Bytes × Meth)) : Nat := (ms.filter fun p => p.2.mid == name).length

mutual
  /-- the number of verb bindings of method `name` in the trie (kind `*` bindings not counted:
  `delRule` never visits `methodAll`). -/
  def countN (name : Nat) : Node → Nat
    | .mk segs methods _ vars => countSegs name segs + countVars name vars + countMeth name methods
  def countSegs (name : Nat) : List (Bytes × Node) → Nat
    | [] => 0
    | (_, c) :: rest => countN name c + countSegs name rest
  def countVars (name : Nat) : List (Var × Node) → Nat
    | [] => 0
    | (_, c) :: rest => countN name c + countVars name rest
end

theorem countSegs_eq (name : Nat) (l : List (Bytes × Node)) :
    countSegs name l = (l.map (countN name ·.2)).sum := by
  induction l with
  | nil => rfl
  | cons p rest ih => simp only [countSegs, List.map_cons, List.sum_cons, ih]

theorem countVars_eq (name : Nat) (l : List (Var × Node)) :
    countVars name l = (l.map (countN name ·.2)).sum := by
  induction l with
  | nil => rfl
  | cons p rest ih => simp only [countVars, List.map_cons, List.sum_cons, ih]

theorem delMeth_count {ms ms' : List (Bytes × Meth)} {name : Nat} (h : delMeth ms name = some ms') :
    countMeth name ms' + 1 = countMeth name ms := by
  obtain ⟨pre, k, m, post, rfl, rfl, hm⟩ := delMeth_eq_some h
  simp only [countMeth, List.filter_append, List.filter_cons, beq_iff_eq.mpr hm, ↓reduceIte, List.length_append,
    List.length_cons, Nat.add_assoc]

theorem delMeth_none_count {ms : List (Bytes × Meth)} {name : Nat} (h : delMeth ms name = none) :
    countMeth name ms = 0 :=
  List.length_eq_zero_iff.mpr (List.filter_eq_nil_iff.mpr fun p hp he => delMeth_none h p hp (beq_iff_eq.mp he))

theorem dead_count {counts : List String} (hs : AliveSound counts) (name : Nat) (c : Node)
    (hc : aliveWith counts c = false) : countN name c = 0 := by
  rw [aliveWith_eq_false hs hc]; rfl

theorem DelKids.sum {κ : Type} {del : Node → Option Node} {alive : Node → Bool} {f : Node → Nat}
    {l l' : List (κ × Node)} (h : DelKids del alive l l')
    (hd : ∀ p ∈ l, ∀ c', del p.2 = some c' → f c' + 1 = f p.2) (ha : ∀ c, alive c = false → f c = 0) :
    (l'.map (f ·.2)).sum + 1 = (l.map (f ·.2)).sum := by
  induction h with
  | keep k c c' rest hc _ =>
    simp only [List.map_cons, List.sum_cons, ← hd _ (.head _) c' hc, Nat.add_right_comm]
  | prune k c c' rest hc hal =>
    simp only [List.map_cons, List.sum_cons, ← hd _ (.head _) c' hc, ha c' hal, Nat.zero_add, Nat.add_comm]
  | skip k c rest rest' _ _ ih =>
    simp only [List.map_cons, List.sum_cons, Nat.add_assoc, ih fun q hq => hd q (.tail _ hq)]

theorem delRule_count {counts : List String} (hs : AliveSound counts) {name : Nat} {n n' : Node}
    (h : delRule counts name n = some n') : countN name n' + 1 = countN name n := by
  induction n using Node.induct generalizing n' with
  | mk segs methods all vars ihs ihv =>
    rcases delRule_eq_some h with ⟨segs', hd, rfl⟩ | ⟨vars', hd, rfl⟩ | ⟨ms, hd, rfl⟩
    · simp only [countN, countSegs_eq, ← hd.sum (fun p hp _ => ihs p hp) (dead_count hs name)]; omega
    · simp only [countN, countVars_eq, ← hd.sum (fun p hp _ => ihv p hp) (dead_count hs name)]; omega
    · simp only [countN, ← delMeth_count hd, Nat.add_assoc]

theorem delSegs_count (counts : List String) (hs : AliveSound counts) (name : Nat) :
    ∀ (segs segs' : List (Bytes × Node)), delSegs counts name segs = some segs' →
    countSegs name segs' + 1 = countSegs name segs := by
  intro segs segs' h
  rw [countSegs_eq, countSegs_eq]
  exact (delSegs_some h).sum (fun _ _ _ => delRule_count hs) (dead_count hs name)

theorem delVars_count (counts : List String) (hs : AliveSound counts) (name : Nat) :
    ∀ (vars vars' : List (Var × Node)), delVars counts name vars = some vars' →
    countVars name vars' + 1 = countVars name vars := by
  intro vars vars' h
  rw [countVars_eq, countVars_eq]
  exact (delVars_some h).sum (fun _ _ _ => delRule_count hs) (dead_count hs name)

theorem sum_eq_zero {α : Type} {f : α → Nat} {l : List α} (h : ∀ p ∈ l, f p = 0) : (l.map f).sum = 0 :=
  List.sum_eq_zero_iff_forall_eq_nat.mpr (List.forall_mem_map.mpr h)

/-- `delRule` reports false only when the method has no verb binding left … -/
theorem delRule_none_count {counts : List String} {name : Nat} {n : Node} (h : delRule counts name n = none) :
    countN name n = 0 := by
  induction n using Node.induct with
  | mk segs methods all vars ihs ihv =>
    obtain ⟨hsg, hv, hm⟩ := delRule_eq_none h
    simp only [countN, countSegs_eq, countVars_eq, delMeth_none_count hm,
      sum_eq_zero fun p hp => ihs p hp (hsg p hp), sum_eq_zero fun p hp => ihv p hp (hv p hp)]

/-- … and whenever none is left: a successful call would have removed one. -/
theorem delRule_none_of_count {counts : List String} (hs : AliveSound counts) {name : Nat} {n : Node}
    (h : countN name n = 0) : delRule counts name n = none := by
  cases hd : delRule counts name n with
  | none => rfl
  | some n' => exact absurd ((delRule_count hs hd).trans h) (Nat.succ_ne_zero _)

theorem delSegs_none_count (counts : List String) (name : Nat) :
    ∀ (segs : List (Bytes × Node)), delSegs counts name segs = none → countSegs name segs = 0 :=
  fun _ h => countSegs_eq .. ▸ sum_eq_zero fun p hp =>
    delRule_none_count (delKids_none (delSegs_eq .. ▸ h) p hp)

theorem delVars_none_count (counts : List String) (name : Nat) :
    ∀ (vars : List (Var × Node)), delVars counts name vars = none → countVars name vars = 0 :=
  fun _ h => countVars_eq .. ▸ sum_eq_zero fun p hp =>
    delRule_none_count (delKids_none (delVars_eq .. ▸ h) p hp)

theorem delAll_complete {counts : List String} (hs : AliveSound counts) {name fuel : Nat} {n : Node}
    (h : countN name n ≤ fuel) :
    delRule counts name (delAll counts name fuel n) = none ∧ countN name (delAll counts name fuel n) = 0 := by
  suffices hd : delRule counts name (delAll counts name fuel n) = none from ⟨hd, delRule_none_count hd⟩
  induction fuel generalizing n with
  | zero => exact delRule_none_of_count hs (Nat.le_zero.mp h)
  | succ fuel ih =>
    rw [delAll]
    cases hd : delRule counts name n with
    | none => exact hd
    | some n' => rw [← delRule_count hs hd] at h; exact ih (Nat.le_of_succ_le_succ h)

end Larking.Trie
