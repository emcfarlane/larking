import Larking.Lemmas.Build
import Larking.Lemmas.LexerTotal
namespace Larking.Trie
open Larking.Lexer

/-- what a node binds: `vk = some verb` → `methods[verb]`, `vk = none` → `methodAll`. -/
def StoredHere (n : Node) (vk : Option Bytes) (m : Meth) : Prop :=
  match vk with
  | some verb => lookupMeth n.methods verb = some m
  | none => n.all = some m

/-- `m` is bound under `vk` at the end of the way with keys `ks` from `n`. -/
def StoredK : Node → List KEdge → Option Bytes → Meth → Prop
  | n, [], vk, m => StoredHere n vk m
  | n, .seg k :: ks, vk, m => ∃ c, lookupSeg n.segs k = some c ∧ StoredK c ks vk m
  | n, .var name :: ks, vk, m => ∃ v c, (v, c) ∈ n.vars ∧ v.name = name ∧ StoredK c ks vk m

theorem StoredK_empty {ks : List KEdge} {vk : Option Bytes} {m : Meth} : ¬ StoredK .empty ks vk m := by
  obtain _ | ⟨_ | _, ks⟩ := ks
  · cases vk <;> nofun
  · rintro ⟨_, h, _⟩; cases h
  · rintro ⟨_, _, h, _⟩; cases h

def verbKey (verb : Bytes) : Option Bytes := if verb == starVerb then none else some verb

theorem register_stored {n n' : Node} {verb : Bytes} {mid : Nat} {mk : Unit → Outcome Meth}
    (h : register n verb mid mk = .ok n') {vk : Option Bytes} {m : Meth} (hs : StoredHere n' vk m) :
    StoredHere n vk m ∨ (vk = verbKey verb ∧ mk () = .ok m) := by
  obtain ⟨segs, ms, al, vars⟩ := n
  obtain ⟨m0, hm, rfl | ⟨hv, rfl⟩ | ⟨hv, rfl⟩⟩ := register_ok_cases h
  · exact .inl hs
  · cases vk with
    | none => cases hs; exact .inr ⟨by rw [verbKey, if_pos hv], hm⟩
    | some v => exact .inl hs
  · cases vk with
    | none => exact .inl hs
    | some v =>
      simp only [StoredHere, Node.methods, lookupMeth_upsert] at hs
      split at hs
      · cases hs; subst v; exact .inr ⟨by rw [verbKey, hv]; rfl, hm⟩
      · exact .inl hs

theorem StoredK_setChild {n c : Node} {e : Edge} {ks : List KEdge} {vk : Option Bytes} {m : Meth}
    (hs : StoredK (setChild n e c) ks vk m) :
    StoredK n ks vk m ∨ ∃ ks', ks = keyOf e :: ks' ∧ StoredK c ks' vk m := by
  obtain ⟨segs, methods, all, vars⟩ := n
  cases e with
  | seg key =>
    obtain _ | ⟨key2 | _, ks⟩ := ks
    · exact .inl hs
    · obtain ⟨c2, hl, hst⟩ := hs
      by_cases hk : key = key2
      · subst hk
        rw [setChild, Node.segs, lookupSeg_upsert_same] at hl
        exact .inr ⟨ks, rfl, Option.some.inj hl ▸ hst⟩
      · rw [setChild, Node.segs, lookupSeg_upsert_other hk] at hl
        exact .inl ⟨c2, hl, hst⟩
    · exact .inl hs
  | var v =>
    obtain _ | ⟨_ | name, ks⟩ := ks
    · exact .inl hs
    · exact .inl hs
    · obtain ⟨v2, c2, hmem, hname, hst⟩ := hs
      rcases mem_upsertVar hmem with hold | ⟨hc, hvn, _⟩
      · exact .inl ⟨v2, c2, hold, hname, hst⟩
      · cases hc
        exact .inr ⟨ks, by rw [keyOf, ← hvn, hname], hst⟩

theorem StoredK_child {n : Node} {e : Edge} {ks : List KEdge} {vk : Option Bytes} {m : Meth}
    (hs : StoredK (child n e) ks vk m) : StoredK n (keyOf e :: ks) vk m := by
  obtain h | h := child_cases n e
  · rw [h] at hs; exact absurd hs StoredK_empty
  · cases e with
    | seg key => exact ⟨_, h, hs⟩
    | var v => obtain ⟨v', hm, hn⟩ := h; exact ⟨v', _, hm, hn, hs⟩

theorem insertAt_stored {verb : Bytes} {mid : Nat} {mk : Unit → Outcome Meth} {es : List Edge} {n n' : Node}
    (h : insertAt n es (fun node => register node verb mid mk) = .ok n')
    {ks : List KEdge} {vk : Option Bytes} {m : Meth} (hs : StoredK n' ks vk m) :
    StoredK n ks vk m ∨ (ks = es.map keyOf ∧ vk = verbKey verb ∧ mk () = .ok m) := by
  induction es generalizing n n' ks with
  | nil =>
    rw [insertAt_nil] at h
    cases ks with
    | nil => exact (register_stored h hs).imp_right fun h1 => ⟨rfl, h1⟩
    | cons k ks =>
      -- `register` leaves the children as they are
      obtain ⟨_, _, rfl⟩ := register_ok_iff.mp h
      cases k <;> exact .inl hs
  | cons e es ih =>
    obtain ⟨c, hc, rfl⟩ := insertAt_cons_ok.mp h
    obtain h1 | ⟨ks', rfl, h1⟩ := StoredK_setChild hs
    · exact .inl h1
    · obtain h2 | ⟨rfl, h2⟩ := ih hc h1
      · exact .inl (StoredK_child h2)
      · exact .inr ⟨rfl, h2⟩

theorem Reach.stored {conv verb n toks m caps es} (h : Reach conv verb n toks m caps es) :
    ∃ vk, (vk = some verb ∨ vk = none) ∧ StoredK n (es.map keyOf) vk m := by
  induction h with
  | hereVerb n toks m _ hl => exact ⟨_, .inl rfl, hl⟩
  | hereAll n toks m _ _ ha => exact ⟨_, .inr rfl, ha⟩
  | seg n child t0 t1 rest m caps es hl _ ih =>
    obtain ⟨vk, hvk, h⟩ := ih
    exact ⟨vk, hvk, child, hl, h⟩
  | var n child v t0 toks1 i m caps es fp _ hmem _ _ _ _ _ _ ih =>
    obtain ⟨vk, hvk, h⟩ := ih
    exact ⟨vk, hvk, v, child, hmem, rfl, h⟩

/-- an accepted binding, seen from the trie's side. -/
def Origin (cap : Nat) (resolve : List Bytes → Option Nat) (b : Binding) (mid : Nat)
    (ks : List KEdge) (vk : Option Bytes) (m : Meth) : Prop :=
  ∃ toks parsed, lexTemplate cap b.tmpl = .ok toks ∧
    parseToks resolve (toks.length + 1) toks = .ok parsed ∧
    ks = parsed.edges.map keyOf ∧ vk = verbKey b.verb ∧ m = ⟨mid, parsed.varfds, b.rule⟩

theorem addBinding_stored {cap : Nat} {resolve} {n n' : Node} {b : Binding} {mid : Nat}
    (h : addBinding cap resolve n b mid = .ok n') {ks : List KEdge} {vk : Option Bytes} {m : Meth}
    (hs : StoredK n' ks vk m) : StoredK n ks vk m ∨ Origin cap resolve b mid ks vk m := by
  obtain ⟨toks, p, hl, hp⟩ := addBinding_parsed h
  rw [addBinding_eq hl hp] at h
  exact (insertAt_stored h hs).imp_right fun h' => ⟨toks, p, hl, hp, h'.1, h'.2.1, methOf_ok h'.2.2⟩

theorem addAll_stored {cap : Nat} {l : List Step} {n n' : Node} (h : addAll cap l n = .ok n') :
    ∀ ks vk m, StoredK n' ks vk m → StoredK n ks vk m ∨ ∃ s ∈ l, Origin cap s.resolve s.b s.mid ks vk m :=
  addAll_fold cap (fun a b => ∀ ks vk m, StoredK b ks vk m → StoredK a ks vk m ∨ ∃ s ∈ l, Origin cap s.resolve s.b s.mid ks vk m)
    (fun _ _ _ _ => .inl) (fun f g ks vk m hs => (g ks vk m hs).elim (f ks vk m) .inr) l
    (fun s hs _ _ h _ _ _ hst => (addBinding_stored h hst).imp_right fun ho => ⟨s, hs, ho⟩) n n' h

theorem buildAll_stored {cap : Nat} {rs : List (Rule × Nat × (List Bytes → Option Nat))} {n n' : Node}
    (h : buildAll cap rs n = .ok n') {ks : List KEdge} {vk : Option Bytes} {m : Meth} (hs : StoredK n' ks vk m) :
    StoredK n ks vk m ∨ ∃ e ∈ rs, ∃ b ∈ e.1.bindings, Origin cap e.2.2 b e.2.1 ks vk m := by
  obtain h | ⟨s, hs, ho⟩ := addAll_stored ((buildAll_ok_iff cap rs n).mp h).2 ks vk m hs
  · exact .inl h
  · obtain ⟨e, he, b, hb, rfl⟩ := mem_stepsOf.mp hs
    exact .inr ⟨e, he, b, hb, ho⟩

/-- **Routing soundness** (C01; said in larking's terms at `Props.C01.route_sound`), for every token-array size. -/
theorem route_sound (cap : Nat) (conv) (rs : List (Rule × Nat × (List Bytes → Option Nat))) (t : Node)
    (hb : buildAll cap rs .empty = .ok t) (path : List Rune) (verb : Bytes) (m : Meth) (caps : Caps)
    (hroute : matchPath cap conv t path verb = .found m caps) :
    ∃ ptoks es, lexPath cap path = .ok ptoks ∧ Reach conv verb t ptoks m caps es ∧
      ∃ e ∈ rs, ∃ b ∈ e.1.bindings, m.mid = e.2.1 ∧ (b.verb = verb ∨ b.verb = starVerb) ∧
        ∃ toks p, lexTemplate cap b.tmpl = .ok toks ∧ parseToks e.2.2 (toks.length + 1) toks = .ok p ∧
          es.map keyOf = p.edges.map keyOf ∧ m.vars = p.varfds := by
  revert hroute
  fun_cases matchPath cap conv t path verb with
  | case2 | case3 => nofun
  | case1 ptoks hlex =>
    intro hroute
    obtain ⟨es, hre⟩ := search_sound hroute
    obtain ⟨vk, hvk, hs⟩ := hre.stored
    obtain h1 | ⟨e, he, b, hbb, otoks, oparsed, olexed, oparses, okeys, okind, rfl⟩ :=
      buildAll_stored hb hs
    · exact absurd h1 StoredK_empty
    · refine ⟨ptoks, es, hlex, hre, e, he, b, hbb, rfl, ?_, otoks, oparsed, olexed, oparses, okeys, rfl⟩
      -- the kind under which it is stored is the binding's verb, `none` standing for '*'
      by_cases hv : b.verb = starVerb
      · exact .inr hv
      · rw [verbKey, if_neg (mt beq_iff_eq.mp hv)] at okind
        obtain rfl | rfl := hvk
        · exact .inl (Option.some.inj okind).symm
        · cases okind

/-- no request can crash the router once the rules were accepted (C01 / C09). -/
theorem route_no_panic (cap : Nat) (conv) (rs : List (Rule × Nat × (List Bytes → Option Nat))) (t : Node)
    (hb : buildAll cap rs .empty = .ok t) (path : List Rune) (verb : Bytes) :
    ∀ s, matchPath cap conv t path verb ≠ .panic s := by
  intro s
  have hwf := buildAll_WF (WF_empty 0) hb
  fun_cases matchPath cap conv t path verb with
  | case1 => exact search_ne_panic hwf _ s
  | case2 => nofun
  | case3 s' hl => exact absurd hl (lexPath_no_panic cap _ s')

end Larking.Trie
