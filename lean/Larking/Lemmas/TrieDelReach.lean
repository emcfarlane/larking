import Larking.Lemmas.TrieDel
/-
  Routing completeness ACROSS a deletion: whatever way a request had to a binding of a method
  other than the deleted one, it still has afterwards (`delRule_keeps_reach`), and the trie stays
  well formed (`delRule_wf`), so `search_complete` applies to the trie after the deletion.
-/
namespace Larking.Trie
open Larking.Lexer

theorem reach_alive {counts : List String} (hs : AliveSound counts) {conv verb n toks m caps es}
    (h : Reach conv verb n toks m caps es) : aliveWith counts n = true := by
  obtain ⟨_, _, hst⟩ := h.stored
  exact stored_alive hs hst

theorem delRule_keeps_reach {counts : List String} (hs : AliveSound counts) {conv} {verb : Bytes} {name : Nat}
    {n : Node} {toks : List Tok} {m : Meth} {caps : Caps} {es : List Edge}
    (h : Reach conv verb n toks m caps es) (hne : m.mid ≠ name) {n' : Node} (hd : delRule counts name n = some n') :
    Reach conv verb n' toks m caps es := by
  induction h generalizing n' with
  | hereVerb n toks m hlen hl => exact .hereVerb _ _ _ hlen ((delRule_step hd).1 (some verb) m hne hl)
  | hereAll n toks m hlen hl ha =>
    exact .hereAll _ _ _ hlen ((delRule_step hd).2.1 verb hl) ((delRule_step hd).1 none m hne ha)
  | seg n child t0 t1 rest m caps es hl hr ih =>
    rcases (delRule_step hd).2.2.1 _ child hl with h1 | ⟨c', h1, h2⟩
    · exact .seg _ child _ _ _ _ _ _ h1 hr
    · have hr' := ih hne h1
      exact .seg _ c' _ _ _ _ _ _ (h2 (reach_alive hs hr')) hr'
  | var n child v t0 toks1 i m caps es fp hsl hmem hlen hvi hr hfp hcl hcv ih =>
    rcases (delRule_step hd).2.2.2 v child hmem with h1 | ⟨c', h1, h2⟩
    · exact .var _ child v _ _ i _ _ _ fp hsl h1 hlen hvi hr hfp hcl hcv
    · have hr' := ih hne h1
      exact .var _ c' v _ _ i _ _ _ fp hsl (h2 (reach_alive hs hr')) hlen hvi hr' hfp hcl hcv

theorem WFSegs_of_forall (k : Nat) : ∀ (segs : List (Bytes × Node)), (∀ p ∈ segs, WF k p.2) → WFSegs k segs :=
  fun _ => WFSegs_iff.mpr

theorem delRule_wf {counts : List String} {name k : Nat} {n n' : Node} (hw : WF k n)
    (h : delRule counts name n = some n') : WF k n' := by
  induction n using Node.induct generalizing k n' with
  | mk segs methods all vars ihs ihv =>
    simp only [WF, WFSegs_iff, WFVars_iff] at hw
    obtain ⟨hm, ha, hsw, hvw⟩ := hw
    rcases delRule_eq_some h with ⟨segs', hd, rfl⟩ | ⟨vars', hd, rfl⟩ | ⟨ms, hd, rfl⟩ <;>
      simp only [WF, WFSegs_iff, WFVars_iff]
    · exact ⟨hm, ha, hd.forall_mem hsw fun _ c c' hc hd => ihs _ hc (hsw _ hc) hd, hvw⟩
    · exact ⟨hm, ha, hsw, hd.forall_mem hvw fun _ c c' hc hd => ⟨(hvw _ hc).1, ihv _ hc (hvw _ hc).2 hd⟩⟩
    · exact ⟨fun p hp => hm p (delMeth_only_removes hd p hp), ha, hsw, hvw⟩

theorem delSegs_wf (counts : List String) (name : Nat) :
    ∀ (k : Nat) (segs segs' : List (Bytes × Node)), WFSegs k segs → delSegs counts name segs = some segs' →
    WFSegs k segs' :=
  fun _ _ _ hw h => WFSegs_iff.mpr <| (delSegs_some h).forall_mem (WFSegs_iff.mp hw)
    fun _ _ _ hc => delRule_wf (WFSegs_iff.mp hw _ hc)

theorem delVars_wf (counts : List String) (name : Nat) :
    ∀ (k : Nat) (vars vars' : List (Var × Node)), WFVars k vars → delVars counts name vars = some vars' →
    WFVars k vars' :=
  fun _ _ _ hw h => WFVars_iff.mpr <| (delVars_some h).forall_mem (WFVars_iff.mp hw)
    fun _ _ _ hc hd => ⟨(WFVars_iff.mp hw _ hc).1, delRule_wf (WFVars_iff.mp hw _ hc).2 hd⟩

end Larking.Trie
