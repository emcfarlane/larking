import Larking.Model.Lexer
/-
  No lexing function of the model raises a panic itself (`emit` answers a full array with the token-limit
  error, as lexer.go does): each proof follows the function and finds, at every end, an `ok`, an `err`, or
  the result of a function already dealt with.
-/
namespace Larking.Lexer

/-- for an `if` in place of `split`, which rewrites the condition throughout the goal and is slow inside the
larger lexing functions. -/
theorem ite_no_panic {α : Type} {c : Prop} [Decidable c] {a b : Outcome α} {s : String}
    (ha : a ≠ .panic s) (hb : b ≠ .panic s) : (if c then a else b) ≠ .panic s := by
  split <;> assumption

theorem emit_no_panic {cap : Nat} {toks : List Tok} {t : Tok} {s : String} : emit cap toks t ≠ .panic s :=
  ite_no_panic nofun nofun

theorem fail_no_panic {cap : Nat} {toks : List Tok} {k s : String} : fail cap toks k ≠ .panic s := by
  unfold fail; split
  · nofun
  · nofun
  · next h => exact absurd h emit_no_panic

theorem emitOne_no_panic {cap : Nat} {ty : TokTy} {r : Rune} {st : St} {rest : List Rune} {s : String} :
    emitOne cap ty r st rest ≠ .panic s := by
  unfold emitOne; split
  · nofun
  · nofun
  · next h => exact absurd h emit_no_panic

theorem lexRun_no_panic {cap : Nat} {p : Rune → Bool} {ty : TokTy} {st : St} {s : String} :
    lexRun cap p ty st ≠ .panic s := by
  unfold lexRun
  split
  refine ite_no_panic fail_no_panic ?_
  split
  · nofun
  · nofun
  · next h => exact absurd h emit_no_panic

theorem map_no_panic {α β : Type} {f : α → β} {o : Outcome α} {s : String} (h : o ≠ .panic s) :
    o.map f ≠ .panic s := by
  cases o with
  | ok a => nofun
  | err k => nofun
  | panic x => exact fun e => h (Outcome.panic.inj e ▸ rfl)

theorem lexPathLoop_no_panic {cap fuel : Nat} {st : St} {s : String} : lexPathLoop cap fuel st ≠ .panic s := by
  induction fuel generalizing st with
  | zero => exact emit_no_panic
  | succ fuel ih =>
    unfold lexPathLoop
    split
    · exact emit_no_panic
    · refine ite_no_panic ?_ (map_no_panic fail_no_panic)
      split
      · split
        · exact ih
        · nofun
        · next h => exact absurd h lexRun_no_panic
      · nofun
      · next h => exact absurd h emitOne_no_panic

theorem lexFieldPathTail_no_panic {cap fuel : Nat} {st : St} {s : String} : lexFieldPathTail cap fuel st ≠ .panic s := by
  induction fuel generalizing st with
  | zero => nofun
  | succ fuel ih =>
    unfold lexFieldPathTail
    split
    · refine ite_no_panic ?_ nofun
      split
      · split
        · exact ih
        · exact lexRun_no_panic
      · exact emitOne_no_panic
    · nofun

theorem lexFieldPath_no_panic {cap : Nat} {st : St} {s : String} : lexFieldPath cap st ≠ .panic s := by
  unfold lexFieldPath
  split
  · exact lexFieldPathTail_no_panic
  · exact lexRun_no_panic

theorem lexClose_no_panic {cap : Nat} {st : St} {s : String} : lexClose cap st ≠ .panic s := by
  unfold lexClose
  split
  · exact ite_no_panic emitOne_no_panic fail_no_panic
  · exact fail_no_panic

theorem lexMutual_no_panic {cap : Nat} (fuel : Nat) :
    (∀ st s, lexSegment cap fuel st ≠ .panic s) ∧
    (∀ st s, lexSegments cap fuel st ≠ .panic s) ∧
    (∀ st s, lexVariable cap fuel st ≠ .panic s) := by
  induction fuel with
  | zero =>
    exact ⟨fun _ _ => fail_no_panic, fun _ _ => fail_no_panic, fun _ _ => fail_no_panic⟩
  | succ fuel ih =>
    obtain ⟨ihSeg, ihSegs, ihVar⟩ := ih
    refine ⟨fun st s => ?_, fun st s => ?_, fun st s => ?_⟩
    · unfold lexSegment
      split
      · exact fail_no_panic
      · refine ite_no_panic lexRun_no_panic
          (ite_no_panic ?_ (ite_no_panic (ihVar _ _) fail_no_panic))
        split
        · refine ite_no_panic ?_ emitOne_no_panic
          split
          · nofun
          · nofun
          · next h => exact absurd h emit_no_panic
        · exact emitOne_no_panic
    · unfold lexSegments
      split
      · split
        · refine ite_no_panic ?_ nofun
          split
          · exact ihSegs _ _
          · exact emitOne_no_panic
        · nofun
      · exact ihSeg _ _
    · unfold lexVariable
      split
      · exact fail_no_panic
      · refine ite_no_panic fail_no_panic ?_
        split
        · split
          · split
            · refine ite_no_panic ?_ lexClose_no_panic
              split
              · split
                · exact lexClose_no_panic
                · exact ihSegs _ _
              · exact emitOne_no_panic
            · exact lexClose_no_panic
          · exact lexFieldPath_no_panic
        · exact emitOne_no_panic

theorem lexTemplate_no_panic (cap : Nat) (input : List Rune) (s : String) :
    lexTemplate cap input ≠ .panic s := by
  unfold lexTemplate
  simp only
  split
  · exact map_no_panic fail_no_panic
  · refine ite_no_panic (map_no_panic fail_no_panic) ?_
    split
    · split
      · split
        · exact emit_no_panic
        · refine ite_no_panic ?_ (map_no_panic fail_no_panic)
          split
          · split
            · split
              · exact emit_no_panic
              · exact map_no_panic fail_no_panic
            · nofun
            · next h => exact absurd h lexRun_no_panic
          · nofun
          · next h => exact absurd h emitOne_no_panic
      · nofun
      · next h => exact absurd h ((lexMutual_no_panic _).2.1 _ _)
    · nofun
    · next h => exact absurd h emitOne_no_panic

theorem lexPath_no_panic (cap : Nat) (input : List Rune) (s : String) : lexPath cap input ≠ .panic s :=
  lexPathLoop_no_panic

/-- at most `cap` tokens are ever produced (the fixed array cannot overflow). -/
theorem emit_len (cap : Nat) (toks toks' : List Tok) (t : Tok) (h : emit cap toks t = .ok toks')
    (_hl : toks.length ≤ cap) : toks'.length ≤ cap := by
  revert h
  fun_cases emit cap toks t with
  | case1 => nofun
  | case2 hlt => rintro ⟨⟩; rw [List.length_append]; exact Nat.lt_of_not_le hlt

end Larking.Lexer
