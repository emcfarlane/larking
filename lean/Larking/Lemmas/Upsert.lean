import Larking.Model.Trie
namespace Larking.Trie

theorem bytesLt_iff (a b : Bytes) : bytesLt a b = true ↔ a < b := by
  induction a generalizing b with
  | nil => cases b <;> simp [bytesLt]
  | cons x xs ih =>
    cases b with
    | nil => simp [bytesLt]
    | cons y ys =>
      rw [bytesLt, List.cons_lt_cons_iff, ← ih, UInt8.lt_iff_toNat_lt, ← UInt8.toNat_inj]
      by_cases h1 : x.toNat < y.toNat
      · simp [h1]
      · by_cases h2 : x.toNat > y.toNat
        · simp [h1, h2, Nat.ne_of_gt h2]
        · simp [h1, h2, Nat.le_antisymm (Nat.not_lt.mp h2) (Nat.not_lt.mp h1)]

theorem bytesLt_asymm {a b : Bytes} (h : bytesLt a b = true) : bytesLt b a = false := by
  rw [bytesLt_iff] at h
  simpa [← bytesLt_iff] using List.lt_asymm h

theorem bytesLt_trichotomy (a b : Bytes) (h : a ≠ b) : bytesLt a b = true ∨ bytesLt b a = true := by
  rw [bytesLt_iff, bytesLt_iff]
  exact Classical.or_iff_not_imp_left.mpr fun hab =>
    (List.le_iff_lt_or_eq.mp (List.not_lt.mp hab)).resolve_right (Ne.symm h)

theorem bytesLt_trans {a b c : Bytes} (h1 : bytesLt a b = true) (h2 : bytesLt b c = true) : bytesLt a c = true := by
  rw [bytesLt_iff] at *
  exact List.lt_trans h1 h2

theorem bytesLt_ne {a b : Bytes} (h : bytesLt a b = true) : a ≠ b := by
  rintro rfl
  exact List.lt_irrefl a ((bytesLt_iff a a).mp h)

/-- insert-or-replace in a list kept sorted by `key`: the first entry under `k` becomes `hit` of
itself; if there is none, `new` goes in front of the first entry with a larger key. -/
def upsertBy {ε : Type} (key : ε → Bytes) (k : Bytes) (hit : ε → ε) (new : ε) : List ε → List ε
  | [] => [new]
  | e :: rest =>
    if key e == k then hit e :: rest
    else if bytesLt k (key e) then new :: e :: rest
    else e :: upsertBy key k hit new rest

theorem upsertKV_eq {α : Type} (k : Bytes) (v : α) (cs : List (Bytes × α)) :
    upsertKV cs k v = upsertBy Prod.fst k (fun _ => (k, v)) (k, v) cs := by
  induction cs with
  | nil => rfl
  | cons p rest ih => rw [upsertKV, upsertBy, ih]

theorem upsertVar_eq (v : Var) (n : Node) (vs : List (Var × Node)) :
    upsertVar vs v n = upsertBy (·.1.name) v.name (fun e => (e.1, n)) (v, n) vs := by
  induction vs with
  | nil => rfl
  | cons p rest ih => rw [upsertVar, upsertBy, ih]

section
variable {ε : Type} {key : ε → Bytes}

theorem upsertBy_overwrite {k : Bytes} {hit1 hit2 : ε → ε} {new1 new2 : ε}
    (h1 : ∀ e, key e = k → key (hit1 e) = k) (n1 : key new1 = k) (l : List ε) :
    upsertBy key k hit2 new2 (upsertBy key k hit1 new1 l) = upsertBy key k (hit2 ∘ hit1) (hit2 new1) l := by
  fun_induction upsertBy key k hit1 new1 l with
  | case1 => rw [upsertBy, upsertBy, if_pos (beq_iff_eq.mpr n1)]
  | case2 e rest he => rw [upsertBy, if_pos (beq_iff_eq.mpr (h1 e (beq_iff_eq.mp he))), upsertBy, if_pos he]; rfl
  | case3 e rest he hl => rw [upsertBy, if_pos (beq_iff_eq.mpr n1), upsertBy, if_neg he, if_pos hl]
  | case4 e rest he hl ih => rw [upsertBy, if_neg he, if_neg hl, ih, upsertBy, if_neg he, if_neg hl]

private theorem upsertBy_comm_lt {k1 k2 : Bytes} {hit1 hit2 : ε → ε} {new1 new2 : ε}
    (h1 : ∀ e, key e = k1 → key (hit1 e) = k1) (h2 : ∀ e, key e = k2 → key (hit2 e) = k2)
    (n1 : key new1 = k1) (n2 : key new2 = k2) (hlt : bytesLt k1 k2 = true) (l : List ε) :
    upsertBy key k2 hit2 new2 (upsertBy key k1 hit1 new1 l) = upsertBy key k1 hit1 new1 (upsertBy key k2 hit2 new2 l) := by
  have hne := bytesLt_ne hlt
  have hgt := bytesLt_asymm hlt
  induction l with
  | nil => simp [upsertBy, n1, n2, hne, Ne.symm hne, hlt, hgt]
  | cons e rest ih =>
    -- where `key e` stands relative to `k1 < k2`: it is `k1`; it is `k2`; above `k2` (both new entries go in
    -- front); between the two (`k1` goes in front, `k2` goes on); below `k1` (both go on: `ih`)
    by_cases e1 : key e = k1
    · simp [upsertBy, e1, h1 e e1, hne, hgt]
    · by_cases e2 : key e = k2
      · simp [upsertBy, e2, h2 e e2, n1, Ne.symm hne, hne, hlt, hgt]
      · by_cases l2 : bytesLt k2 (key e) = true
        · have l1 := bytesLt_trans hlt l2
          simp [upsertBy, e1, e2, l1, l2, n1, n2, hne, Ne.symm hne, hlt, hgt]
        · by_cases l1 : bytesLt k1 (key e) = true
          · simp [upsertBy, e1, e2, l1, l2, n1, hne, hgt]
          · simp [upsertBy, e1, e2, l1, l2, ih]

theorem upsertBy_comm {k1 k2 : Bytes} {hit1 hit2 : ε → ε} {new1 new2 : ε}
    (h1 : ∀ e, key e = k1 → key (hit1 e) = k1) (h2 : ∀ e, key e = k2 → key (hit2 e) = k2)
    (n1 : key new1 = k1) (n2 : key new2 = k2) (hne : k1 ≠ k2) (l : List ε) :
    upsertBy key k2 hit2 new2 (upsertBy key k1 hit1 new1 l) = upsertBy key k1 hit1 new1 (upsertBy key k2 hit2 new2 l) := by
  rcases bytesLt_trichotomy k1 k2 hne with h | h
  · exact upsertBy_comm_lt h1 h2 n1 n2 h l
  · exact (upsertBy_comm_lt h2 h1 n2 n1 h l).symm

end

theorem upsertKV_overwrite {α : Type} (l : List (Bytes × α)) (k : Bytes) (v1 v2 : α) :
    upsertKV (upsertKV l k v1) k v2 = upsertKV l k v2 := by
  simp only [upsertKV_eq]; exact upsertBy_overwrite (by intro _ _; rfl) (by rfl) l

theorem upsertKV_comm {α : Type} {l : List (Bytes × α)} {k1 k2 : Bytes} {v1 v2 : α} (h : k1 ≠ k2) :
    upsertKV (upsertKV l k1 v1) k2 v2 = upsertKV (upsertKV l k2 v2) k1 v1 := by
  simp only [upsertKV_eq]; exact upsertBy_comm (by intro _ _; rfl) (by intro _ _; rfl) (by rfl) (by rfl) h l

theorem upsertVar_overwrite (l : List (Var × Node)) (v : Var) (c1 c2 : Node) :
    upsertVar (upsertVar l v c1) v c2 = upsertVar l v c2 := by
  simp only [upsertVar_eq]; exact upsertBy_overwrite (by intro _ h; exact h) (by rfl) l

theorem upsertVar_comm {l : List (Var × Node)} {v1 v2 : Var} {c1 c2 : Node} (h : v1.name ≠ v2.name) :
    upsertVar (upsertVar l v1 c1) v2 c2 = upsertVar (upsertVar l v2 c2) v1 c1 := by
  simp only [upsertVar_eq]
  exact upsertBy_comm (by intro _ h; exact h) (by intro _ h; exact h) (by rfl) (by rfl) h l

theorem lookupSeg_eq_find (cs : List (Bytes × Node)) (k : Bytes) : lookupSeg cs k = (cs.find? (·.1 == k)).map (·.2) := by
  induction cs with
  | nil => rfl
  | cons p rest ih =>
    rw [lookupSeg, List.find?_cons]
    cases p.1 == k
    · exact ih
    · rfl

theorem lookupMeth_eq_find (ms : List (Bytes × Meth)) (k : Bytes) : lookupMeth ms k = (ms.find? (·.1 == k)).map (·.2) := by
  induction ms with
  | nil => rfl
  | cons p rest ih =>
    rw [lookupMeth, List.find?_cons]
    cases p.1 == k
    · exact ih
    · rfl

theorem lookupVar_eq_find (vs : List (Var × Node)) (name : Bytes) : lookupVar vs name = vs.find? (·.1.name == name) := by
  induction vs with
  | nil => rfl
  | cons p rest ih =>
    rw [lookupVar, List.find?_cons]
    cases p.1.name == name
    · exact ih
    · rfl

section
variable {ε : Type} {key : ε → Bytes} {k : Bytes} {hit : ε → ε} {new : ε}

theorem find?_upsertBy_other (hh : ∀ e, key e = k → key (hit e) = k) (hn : key new = k) {k' : Bytes} (h : k ≠ k')
    (l : List ε) : (upsertBy key k hit new l).find? (key · == k') = l.find? (key · == k') := by
  have hk : (k == k') = false := beq_false_of_ne h
  fun_induction upsertBy key k hit new l with
  | case1 => rw [List.find?_cons, hn, hk]
  | case2 e rest he => rw [List.find?_cons, List.find?_cons, hh e (beq_iff_eq.mp he), hk, beq_iff_eq.mp he, hk]
  | case3 e rest _ _ => rw [List.find?_cons, hn, hk]
  | case4 e rest _ _ ih => rw [List.find?_cons, List.find?_cons, ih]

theorem find?_upsertBy_same (hh : ∀ e, key e = k → key (hit e) = k) (hn : key new = k) (l : List ε) :
    ∃ e', (upsertBy key k hit new l).find? (key · == k) = some e' ∧
      (e' = new ∨ ∃ e, l.find? (key · == k) = some e ∧ e' = hit e) := by
  fun_induction upsertBy key k hit new l with
  | case1 => exact ⟨new, by rw [List.find?_cons, hn, beq_self_eq_true], .inl rfl⟩
  | case2 e rest he =>
    exact ⟨hit e, by rw [List.find?_cons, hh e (beq_iff_eq.mp he), beq_self_eq_true],
      .inr ⟨e, by rw [List.find?_cons, he], rfl⟩⟩
  | case3 e rest _ _ => exact ⟨new, by rw [List.find?_cons, hn, beq_self_eq_true], .inl rfl⟩
  | case4 e rest he _ ih =>
    obtain ⟨e', h1, h2⟩ := ih
    have he := Bool.eq_false_iff.mpr he
    exact ⟨e', by rw [List.find?_cons, he, h1], h2.imp_right (.imp fun x hx => ⟨by rw [List.find?_cons, he, hx.1], hx.2⟩)⟩

theorem mem_upsertBy {x : ε} {l : List ε} (h : x ∈ upsertBy key k hit new l) :
    x ∈ l ∨ x = new ∨ ∃ e ∈ l, key e = k ∧ x = hit e := by
  fun_induction upsertBy key k hit new l with
  | case1 => exact .inr (.inl (List.mem_singleton.mp h))
  | case2 e rest he =>
    rcases List.mem_cons.mp h with h | h
    · exact .inr (.inr ⟨e, .head _, beq_iff_eq.mp he, h⟩)
    · exact .inl (.tail _ h)
  | case3 e rest _ _ =>
    rcases List.mem_cons.mp h with h | h
    · exact .inr (.inl h)
    · exact .inl h
  | case4 e rest _ _ ih =>
    rcases List.mem_cons.mp h with h | h
    · exact .inl (h ▸ .head _)
    · rcases ih h with h | h | ⟨e0, h0, h1⟩
      · exact .inl (.tail _ h)
      · exact .inr (.inl h)
      · exact .inr (.inr ⟨e0, .tail _ h0, h1⟩)

theorem mem_upsertBy_of_mem {x : ε} {l : List ε} (h : x ∈ l) :
    x ∈ upsertBy key k hit new l ∨ (l.find? (key · == k) = some x ∧ hit x ∈ upsertBy key k hit new l) := by
  fun_induction upsertBy key k hit new l with
  | case1 => cases h
  | case2 e rest he =>
    rcases List.mem_cons.mp h with rfl | h
    · exact .inr ⟨by rw [List.find?_cons, he], .head _⟩
    · exact .inl (.tail _ h)
  | case3 e rest _ _ => exact .inl (.tail _ h)
  | case4 e rest he _ ih =>
    rcases List.mem_cons.mp h with rfl | h
    · exact .inl (.head _)
    · exact (ih h).imp (.tail _) fun h' => ⟨by rw [List.find?_cons, Bool.eq_false_iff.mpr he, h'.1], .tail _ h'.2⟩
end

theorem lookupSeg_upsert_same (cs : List (Bytes × Node)) (k : Bytes) (v : Node) :
    lookupSeg (upsertSeg cs k v) k = some v := by
  obtain ⟨e', h1, h2⟩ := find?_upsertBy_same (key := Prod.fst) (hit := fun _ => (k, v)) (fun _ _ => rfl) rfl cs
  rw [lookupSeg_eq_find, upsertSeg, upsertKV_eq, h1]
  rcases h2 with rfl | ⟨_, _, rfl⟩ <;> rfl

theorem lookupSeg_upsert_other {cs : List (Bytes × Node)} {k k2 : Bytes} {v : Node} (hne : k ≠ k2) :
    lookupSeg (upsertSeg cs k v) k2 = lookupSeg cs k2 := by
  rw [lookupSeg_eq_find, lookupSeg_eq_find, upsertSeg, upsertKV_eq,
    find?_upsertBy_other (by intro _ _; rfl) (by rfl) hne]

theorem lookupMeth_upsert (ms : List (Bytes × Meth)) (k k2 : Bytes) (m : Meth) :
    lookupMeth (upsertMeth ms k m) k2 = if k = k2 then some m else lookupMeth ms k2 := by
  rw [lookupMeth_eq_find, lookupMeth_eq_find, upsertMeth, upsertKV_eq]
  by_cases h : k = k2
  · subst h
    obtain ⟨e', h1, h2⟩ := find?_upsertBy_same (key := Prod.fst) (hit := fun _ => (k, m)) (fun _ _ => rfl) rfl ms
    rw [h1, if_pos rfl]
    rcases h2 with rfl | ⟨_, _, rfl⟩ <;> rfl
  · rw [find?_upsertBy_other (by intro _ _; rfl) (by rfl) h, if_neg h]

/-- `upsertVar` keeps the variable it finds under the name (`addVariable` looks the pattern text up
first), and stores `v` only when there is none. -/
theorem lookupVar_upsert_same (vs : List (Var × Node)) (v : Var) (c : Node) :
    ∃ v', lookupVar (upsertVar vs v c) v.name = some (v', c) ∧ (v' = v ∨ ∃ c0, lookupVar vs v.name = some (v', c0)) := by
  obtain ⟨e', h1, h2⟩ := find?_upsertBy_same (key := fun e : Var × Node => e.1.name) (hit := fun e => (e.1, c))
    (new := (v, c)) (fun _ h => h) rfl vs
  rw [lookupVar_eq_find, upsertVar_eq, h1]
  rcases h2 with rfl | ⟨e, he, rfl⟩
  · exact ⟨v, rfl, .inl rfl⟩
  · exact ⟨e.1, rfl, .inr ⟨e.2, by rw [lookupVar_eq_find, he]⟩⟩

theorem lookupVar_upsert_other {vs : List (Var × Node)} {v : Var} {c : Node} {name : Bytes}
    (hne : v.name ≠ name) : lookupVar (upsertVar vs v c) name = lookupVar vs name := by
  rw [lookupVar_eq_find, lookupVar_eq_find, upsertVar_eq,
    find?_upsertBy_other (by intro _ h; exact h) (by rfl) hne]

theorem mem_upsertKV {α : Type} {l : List (Bytes × α)} {key : Bytes} {v : α} {p : Bytes × α}
    (h : p ∈ upsertKV l key v) : p ∈ l ∨ p = (key, v) := by
  rw [upsertKV_eq] at h
  rcases mem_upsertBy h with h | h | ⟨_, _, _, h⟩
  · exact Or.inl h
  all_goals exact Or.inr h

theorem mem_upsertVar {vs : List (Var × Node)} {v : Var} {c : Node} {p : Var × Node}
    (h : p ∈ upsertVar vs v c) :
    p ∈ vs ∨ (p.2 = c ∧ p.1.name = v.name ∧ (p.1 = v ∨ ∃ c0, (p.1, c0) ∈ vs)) := by
  rw [upsertVar_eq] at h
  rcases mem_upsertBy h with h | rfl | ⟨e, he, hk, rfl⟩
  · exact Or.inl h
  · exact Or.inr ⟨rfl, rfl, Or.inl rfl⟩
  · exact Or.inr ⟨rfl, hk, Or.inr ⟨e.2, he⟩⟩

theorem mem_upsertVar_keep (vs : List (Var × Node)) (v : Var) (c : Node) {p : Var × Node} (h : p ∈ vs) :
    p ∈ upsertVar vs v c ∨ (lookupVar vs v.name = some p ∧ (p.1, c) ∈ upsertVar vs v c) := by
  rw [upsertVar_eq, lookupVar_eq_find]
  exact mem_upsertBy_of_mem h

end Larking.Trie
