import Larking.Model.WebWriter
namespace Larking.Web
open Larking.Metadata

/-- the replacement `setKey` maps over an existing key keeps every entry's key. -/
theorem replace_fst (k : Bytes) (vs : List Bytes) (kv : Bytes × List Bytes) :
    (if kv.1 == k then (k, vs) else kv).1 = kv.1 := by
  split
  · next hk => exact (eq_of_beq hk).symm
  · rfl

theorem lookup_setKey (m : MD) (k k' : Bytes) (vs : List Bytes) :
    lookup (setKey m k vs) k' = if k' = k then some vs else lookup m k' := by
  unfold lookup
  fun_cases setKey m k vs
  · next h =>
    -- the search sees the same keys as before, so it stops at the same entry
    simp only [List.find?_map, Function.comp_def, replace_fst]
    cases hr : m.find? (fun kv => kv.1 == k') with
    | none =>
      have hne : k' ≠ k := by
        rintro rfl
        obtain ⟨kv, hkv, hk⟩ := List.any_eq_true.mp h
        exact List.find?_eq_none.mp hr kv hkv hk
      rw [if_neg hne]; rfl
    | some kv =>
      obtain rfl : kv.1 = k' := eq_of_beq (List.find?_some hr :)
      by_cases hk : kv.1 = k <;> simp [hk]
  · next h =>
    by_cases hk : k' = k
    · subst hk
      have : m.find? (fun kv => kv.1 == k') = none :=
        List.find?_eq_none.mpr fun kv hkv hk => h (List.any_eq_true.mpr ⟨kv, hkv, hk⟩)
      simp [this]
    · simp [hk, Ne.symm hk]

theorem mem_keys_setKey (m : MD) (k : Bytes) (vs : List Bytes) (x : Bytes) :
    x ∈ (setKey m k vs).map (·.1) ↔ x ∈ m.map (·.1) ∨ x = k := by
  fun_cases setKey m k vs
  · next h =>
    obtain ⟨kv0, hkv0, hk0⟩ := List.any_eq_true.mp h
    simp only [List.map_map, Function.comp_def, replace_fst]
    exact ⟨Or.inl, fun h => h.elim id fun e => e ▸ eq_of_beq hk0 ▸ List.mem_map_of_mem hkv0⟩
  · rw [List.map_append, List.mem_append, List.map_singleton, List.mem_singleton]

/-- the discipline `seeHeaders` establishes: no trailer key is ever "seen". -/
def SeenOK (w : W) : Prop := ∀ k ∈ w.seen, trailerPrefix.isPrefixOf k = false

theorem seeHeaders_ok (ct : Bytes) (w : W) : SeenOK (seeHeaders ct w) := by
  intro k hk
  simp only [seeHeaders, List.mem_filter] at hk
  simpa using hk.2

theorem step_ok (ct : Bytes) (w : W) (op : Op) (h : SeenOK w) : SeenOK (step ct w op) := by
  cases op with
  | set k vs => exact h
  | del k => exact h
  | write =>
    simp only [step]
    split
    · exact h
    · exact seeHeaders_ok ct w
  | writeHeader => exact seeHeaders_ok ct w

theorem run_ok (ct : Bytes) (ops : List Op) : SeenOK (run ct ops) :=
  List.foldlRecOn ops (step ct) (fun _ hk => nomatch hk) fun w hw op _ => step_ok ct w op hw

theorem SeenOK.prefixed_unseen {w : W} (h : SeenOK w) (k : Bytes) :
    w.seen.contains (trailerPrefix ++ k) = false :=
  Bool.eq_false_iff.mpr fun hc => absurd (h _ (List.contains_iff_mem.mp hc)) (by simp)

theorem trailerKey_prefixed (k : Bytes) : trailerKey (trailerPrefix ++ k) = lower k := by
  simp [trailerKey]

/-- `writeTrailer`'s loop in closed form: the LAST unseen entry that maps to a key wins. -/
theorem lookup_foldl (seen : List Bytes) (k : Bytes) (rest acc : MD) :
    lookup (rest.foldl (fun tr kv => if seen.contains kv.1 then tr else setKey tr (trailerKey kv.1) kv.2) acc) k
      = ((rest.reverse.find? fun kv => !seen.contains kv.1 && trailerKey kv.1 == k).map (·.2)).or
          (lookup acc k) := by
  induction rest generalizing acc with
  | nil => rfl
  | cons x rest ih =>
    rw [List.foldl_cons, ih, List.reverse_cons, List.find?_append, List.find?_singleton]
    cases List.find? (fun kv => !seen.contains kv.1 && trailerKey kv.1 == k) rest.reverse with
    | some y => rfl
    | none =>
      cases seen.contains x.1
      · by_cases hk : trailerKey x.1 = k
        · simp [hk, lookup_setKey]
        · simp [hk, lookup_setKey, Ne.symm hk]
      · simp

theorem find_unseen {seen : List Bytes} {order : MD} {k : Bytes} {y : Bytes × List Bytes}
    (h : order.reverse.find? (fun kv => !seen.contains kv.1 && trailerKey kv.1 == k) = some y) :
    y ∈ order ∧ seen.contains y.1 = false ∧ trailerKey y.1 = k := by
  have hy := List.find?_some h
  simp only [Bool.and_eq_true, Bool.not_eq_eq_eq_not, Bool.not_true, beq_iff_eq] at hy
  exact ⟨List.mem_reverse.mp (List.mem_of_find?_eq_some h), hy⟩

theorem trailerMapOf_lookup (seen : List Bytes) (order : MD) (kv : Bytes × List Bytes)
    (hmem : kv ∈ order) (hunseen : seen.contains kv.1 = false)
    (huniq : ∀ kv' ∈ order, seen.contains kv'.1 = false → trailerKey kv'.1 = trailerKey kv.1 → kv' = kv) :
    lookup (trailerMapOf seen order) (trailerKey kv.1) = some kv.2 := by
  rw [trailerMapOf, lookup_foldl]
  -- some unseen entry maps to the key (kv itself does), and the last of them can only be kv
  cases hf : order.reverse.find? fun x => !seen.contains x.1 && trailerKey x.1 == trailerKey kv.1 with
  | none =>
    have := List.find?_eq_none.mp hf kv (List.mem_reverse.mpr hmem)
    rw [hunseen] at this; simp at this
  | some y =>
    obtain ⟨hy, hs, hk⟩ := find_unseen hf
    rw [huniq y hy hs hk]; rfl

theorem trailerMapOf_sound (seen : List Bytes) (order : MD) (k : Bytes) (vs : List Bytes)
    (h : lookup (trailerMapOf seen order) k = some vs) :
    ∃ kv ∈ order, seen.contains kv.1 = false ∧ trailerKey kv.1 = k ∧ kv.2 = vs := by
  rw [trailerMapOf, lookup_foldl] at h
  cases hf : order.reverse.find? fun x => !seen.contains x.1 && trailerKey x.1 == k with
  | none => rw [hf] at h; cases h
  | some y =>
    rw [hf] at h
    obtain ⟨hy, hs, hk⟩ := find_unseen hf
    exact ⟨y, hy, hs, hk, Option.some.inj h⟩
end Larking.Web
