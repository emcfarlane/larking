import Larking.Model.Lexer
namespace Larking.Lexer

/-- what follows a run does not continue it: the next rune, if there is one, satisfies `stop`. -/
def Follow (stop : Rune → Prop) (rest : List Rune) : Prop := ∀ r ∈ rest.head?, stop r

theorem Follow.nil {stop : Rune → Prop} : Follow stop [] := fun _ h => nomatch h

theorem Follow.cons {stop : Rune → Prop} {r : Rune} {rest : List Rune} (h : stop r) : Follow stop (r :: rest) :=
  fun _ hx => Option.some.inj hx ▸ h

theorem Follow.imp {stop stop' : Rune → Prop} {rest : List Rune} (h : ∀ r, stop r → stop' r)
    (hf : Follow stop rest) : Follow stop' rest := fun r hr => h r (hf r hr)

/-- the token array has room for `out` after `toks`.  The lemmas below ask for room for what their step emits
and for whatever the caller emits after it (`t :: more`, `out ++ more`): a caller then hands every step the one
hypothesis it has, moved past the tokens already emitted by `Fits.tail` / `Fits.right`. -/
def Fits (cap : Nat) (toks out : List Tok) : Prop := toks.length + out.length ≤ cap

theorem Fits.right {cap : Nat} {toks a b : List Tok} (h : Fits cap toks (a ++ b)) : Fits cap (toks ++ a) b := by
  unfold Fits at h ⊢
  rwa [List.length_append, Nat.add_assoc, ← List.length_append]

theorem Fits.tail {cap : Nat} {toks b : List Tok} {t : Tok} (h : Fits cap toks (t :: b)) : Fits cap (toks ++ [t]) b :=
  Fits.right (a := [t]) h

/-- the shape of every lemma about a lexing function below: `f` takes `run` off the front of the input
and appends the tokens `out`, whatever was emitted before (if there is room for `out`) and whatever
follows (if the next rune satisfies `stop`). -/
def Reads (cap : Nat) (f : St → Outcome St) (stop : Rune → Prop) (run : List Rune) (out : List Tok) : Prop :=
  ∀ ⦃toks rest more⦄, Fits cap toks (out ++ more) → Follow stop rest →
    f ⟨toks, run ++ rest⟩ = .ok ⟨toks ++ out, rest⟩

theorem span_run {p : Rune → Bool} {run rest : List Rune} (hrun : ∀ r ∈ run, p r = true)
    (hrest : Follow (p · = false) rest) : span p (run ++ rest) = (run, rest) := by
  induction run with
  | nil =>
    cases rest with
    | nil => rfl
    | cons r rest => simp only [List.nil_append, span, hrest r rfl]; rfl
  | cons r run ih =>
    simp only [List.cons_append, span, hrun r (.head _), ↓reduceIte, ih fun x hx => hrun x (.tail _ hx)]

theorem emit_ok {cap : Nat} {toks more : List Tok} {t : Tok} (h : Fits cap toks (t :: more)) :
    emit cap toks t = .ok (toks ++ [t]) :=
  if_neg (Nat.not_le.2 (Nat.lt_of_lt_of_le (Nat.lt_add_of_pos_right (Nat.succ_pos _)) h))

theorem emitOne_ok {cap : Nat} {ty : TokTy} {r : Rune} {toks more : List Tok} {inp rest : List Rune}
    (hcap : Fits cap toks (⟨ty, r.bytes⟩ :: more)) :
    emitOne cap ty r ⟨toks, inp⟩ rest = .ok ⟨toks ++ [⟨ty, r.bytes⟩], rest⟩ := by
  simp only [emitOne, emit_ok hcap]

theorem lexRun_ok {cap : Nat} {p : Rune → Bool} {ty : TokTy} {run : List Rune} (hne : run ≠ [])
    (hrun : ∀ r ∈ run, p r = true) : Reads cap (lexRun cap p ty) (p · = false) run [⟨ty, runesBytes run⟩] := by
  intro toks rest more hcap hrest
  simp only [lexRun, span_run hrun hrest, List.isEmpty_iff, hne, ↓reduceIte, emit_ok hcap]

/-- a request path as a list of (separator, segment): `/seg/seg:verb…`. -/
abbrev PathSegs := List (Rune × List Rune)

def renderPath (segs : PathSegs) : List Rune := segs.flatMap fun p => p.1 :: p.2

def pathToks (segs : PathSegs) : List Tok :=
  segs.flatMap fun p => [⟨if p.1.ch == cSlash then .slash else .verb, p.1.bytes⟩, ⟨.path, runesBytes p.2⟩]

/-- the documented shape: separators are '/' or ':' (neither is a path character), every
segment is a non-empty run of path characters. -/
def WfPath (segs : PathSegs) : Prop :=
  ∀ p ∈ segs, (p.1.ch = cSlash ∨ p.1.ch = cColon) ∧ p.1.path = false ∧ p.2 ≠ [] ∧ ∀ r ∈ p.2, r.path = true

theorem renderPath_cons (p : Rune × List Rune) (segs : PathSegs) :
    renderPath (p :: segs) = p.1 :: (p.2 ++ renderPath segs) := rfl

theorem pathToks_cons (p : Rune × List Rune) (segs : PathSegs) :
    pathToks (p :: segs) = ⟨if p.1.ch == cSlash then .slash else .verb, p.1.bytes⟩ :: ⟨.path, runesBytes p.2⟩ ::
      pathToks segs := rfl

theorem lexPathLoop_complete {cap : Nat} {segs : PathSegs} (hwf : WfPath segs) {fuel : Nat} (hfuel : segs.length ≤ fuel)
    {toks : List Tok} (hcap : Fits cap toks (pathToks segs ++ [⟨.eof, []⟩])) :
    lexPathLoop cap fuel ⟨toks, renderPath segs⟩ = .ok (toks ++ (pathToks segs ++ [(⟨.eof, []⟩ : Tok)])) := by
  induction segs generalizing fuel toks with
  | nil => cases fuel <;> exact emit_ok hcap
  | cons p segs ih =>
    obtain ⟨sep, body⟩ := p
    obtain ⟨hsep, -, hne, hall⟩ := hwf _ (.head _)
    have hwf' : WfPath segs := fun q hq => hwf q (.tail _ hq)
    obtain _ | fuel := fuel
    · cases hfuel
    have hc : (sep.ch == cSlash || sep.ch == cColon) = true := by simpa using hsep
    have hrest : Follow (·.path = false) (renderPath segs) := by
      cases segs with
      | nil => exact .nil
      | cons q segs => exact .cons (hwf' q (.head _)).2.1
    rw [pathToks_cons] at hcap ⊢
    -- `List.append_assoc` only after this step, here and below: the emitted tokens must keep the
    -- shape `toks ++ [t] ++ …` in which the `Fits` hypotheses and the lemmas' left sides have them.
    simp only [renderPath_cons, lexPathLoop, hc, ↓reduceIte, emitOne_ok hcap, lexRun_ok hne hall hcap.tail hrest,
      ih hwf' (Nat.le_of_succ_le_succ hfuel) hcap.tail.tail]
    simp only [List.append_assoc, List.cons_append, List.nil_append]

theorem length_le_renderPath (segs : PathSegs) : segs.length ≤ (renderPath segs).length := by
  induction segs with
  | nil => exact Nat.le_refl 0
  | cons p segs ih => simp only [renderPath_cons, List.length_cons, List.length_append]; omega

theorem pathToks_length (segs : PathSegs) : (pathToks segs).length = 2 * segs.length := by
  induction segs with
  | nil => rfl
  | cons p segs ih => simp only [pathToks_cons, List.length_cons, ih]; rfl

theorem lexPath_complete (cap : Nat) (segs : PathSegs) (hwf : WfPath segs) (hcap : 2 * segs.length + 1 ≤ cap) :
    lexPath cap (renderPath segs) = .ok (pathToks segs ++ [⟨.eof, []⟩]) :=
  lexPathLoop_complete hwf (Nat.le_succ_of_le (length_le_renderPath segs))
    (by rw [Fits, List.length_append, pathToks_length, List.length_nil, Nat.zero_add]; exact hcap)

/-! ### path templates (the documented grammar, variables not nested) -/

/-- a punctuation rune: its code point, and none of the run classes. -/
def Punct (c : Nat) (r : Rune) : Prop := r.ch = c ∧ r.literal = false ∧ r.ident = false ∧ r.letter = false

instance (c : Nat) (r : Rune) : Decidable (Punct c r) := by unfold Punct; infer_instance

theorem Punct.ne {c c' : Nat} {r : Rune} (h : Punct c r) (hc : c ≠ c') : r.ch ≠ c' := h.1 ▸ hc

/-- `*`, `**` or a literal. -/
inductive Simple where
  | lit (run : List Rune)
  | star (r : Rune)
  | starstar (r1 r2 : Rune)

def Simple.render : Simple → List Rune
  | .lit run => run
  | .star r => [r]
  | .starstar r1 r2 => [r1, r2]

def Simple.toks : Simple → List Tok
  | .lit run => [⟨.literal, runesBytes run⟩]
  | .star r => [⟨.star, r.bytes⟩]
  | .starstar r1 r2 => [⟨.starstar, r1.bytes ++ r2.bytes⟩]

/-- LITERAL as the code reads it: starts with a letter, continues with literal runes. -/
def Simple.Wf : Simple → Prop
  | .lit run => (∃ r rest, run = r :: rest ∧ r.letter = true) ∧ ∀ r ∈ run, r.literal = true
  | .star r => Punct cStar r
  | .starstar r1 r2 => Punct cStar r1 ∧ Punct cStar r2

/-- what may follow a segment: a literal rune would be taken into a literal, a `*` would make `*` a `**`. -/
def SegStop (r : Rune) : Prop := r.literal = false ∧ r.ch ≠ cStar

theorem Punct.segStop {c : Nat} {r : Rune} (h : Punct c r) (hc : c ≠ cStar) : SegStop r := ⟨h.2.1, h.ne hc⟩

/-- what may follow `Segment { "/" Segment }`: a '/' would continue it. -/
def SegsStop (r : Rune) : Prop := SegStop r ∧ r.ch ≠ cSlash

theorem lexSegment_simple {cap : Nat} {s : Simple} (hs : s.Wf) {fuel : Nat} (hfuel : s.render.length < fuel) :
    Reads cap (lexSegment cap fuel) SegStop s.render s.toks := by
  obtain _ | fuel := fuel
  · cases hfuel
  intro toks rest more hcap hrest
  cases s with
  | lit run =>
    obtain ⟨⟨r, run', rfl, hletter⟩, hall⟩ := hs
    exact .trans (if_pos hletter) (lexRun_ok (List.cons_ne_nil _ _) hall hcap (hrest.imp fun _ h => h.1))
  | star r =>
    have hs : Punct cStar r := hs
    simp only [Simple.render, List.cons_append, List.nil_append, lexSegment, hs.2.2.2, hs.1, beq_self_eq_true,
      Bool.false_eq_true, ↓reduceIte]
    cases rest with
    | nil => exact emitOne_ok hcap
    | cons r2 rest2 =>
      simp only [beq_iff_eq, (hrest r2 rfl).2, ↓reduceIte]
      exact emitOne_ok hcap
  | starstar r1 r2 =>
    obtain ⟨h1, h2⟩ := hs
    simp only [Simple.render, Simple.toks, List.cons_append, List.nil_append, lexSegment, h1.2.2.2, h1.1, h2.1,
      beq_self_eq_true, Bool.false_eq_true, ↓reduceIte, emit_ok hcap]

/-- `Segment { "/" Segment }` over simple segments (the sub-pattern of a variable). -/
def renderSimples (first : Simple) (more : List (Rune × Simple)) : List Rune :=
  first.render ++ more.flatMap fun p => p.1 :: p.2.render

def toksSimples (first : Simple) (more : List (Rune × Simple)) : List Tok :=
  first.toks ++ more.flatMap fun p => ⟨.slash, p.1.bytes⟩ :: p.2.toks

/-- `lexSegments` over any kind of segment that `lexSegment` reads: `renderSimples` is this text for
`Simple.render`, `renderSegs` for `Seg.render`. -/
theorem lexSegments_sepBy {α : Type} (render : α → List Rune) (out : α → List Tok) (Ok : α → Prop) {cap : Nat}
    (hseg : ∀ {a}, Ok a → ∀ {fuel}, (render a).length < fuel →
      Reads cap (lexSegment cap fuel) SegStop (render a) (out a))
    {first : α} {more : List (Rune × α)} {fuel : Nat} (hf : Ok first) (hmore : ∀ p ∈ more, Punct cSlash p.1 ∧ Ok p.2)
    (hfuel : (render first ++ more.flatMap fun p => p.1 :: render p.2).length + 1 < fuel) :
    Reads cap (lexSegments cap fuel) SegsStop
      (render first ++ more.flatMap fun p => p.1 :: render p.2)
      (out first ++ more.flatMap fun p => ⟨.slash, p.1.bytes⟩ :: out p.2) := by
  intro toks rest after hcap hrest
  induction more generalizing first fuel toks with
  | nil =>
    obtain _ | fuel := fuel
    · cases hfuel
    simp only [List.flatMap_nil, List.append_nil] at hfuel hcap ⊢
    rw [lexSegments, hseg hf (Nat.lt_of_succ_lt_succ hfuel) hcap (hrest.imp fun _ h => h.1)]
    cases rest with
    | nil => rfl
    | cons r _ => exact if_neg (mt beq_iff_eq.1 (hrest r rfl).2)
  | cons p more ih =>
    obtain ⟨sl, a2⟩ := p
    obtain ⟨hsl, ha2⟩ : Punct cSlash sl ∧ Ok a2 := hmore _ (.head _)
    obtain _ | fuel := fuel
    · cases hfuel
    simp only [List.flatMap_cons, List.cons_append] at hfuel hcap ⊢
    rw [List.length_append, List.length_cons] at hfuel
    rw [List.append_assoc (out first)] at hcap
    have h2 := ih (fuel := fuel) ha2 (fun q hq => hmore q (.tail _ hq)) (by omega) hcap.right.tail
    rw [List.append_assoc (render first), List.cons_append, lexSegments,
      hseg hf (by omega) hcap (.cons (hsl.segStop (by decide)))]
    simp only [hsl.1, beq_self_eq_true, ↓reduceIte, emitOne_ok hcap.right, h2]
    simp only [List.append_assoc, List.cons_append, List.nil_append]

theorem lexSegments_simples {cap : Nat} {first : Simple} {more : List (Rune × Simple)} {fuel : Nat} (hf : first.Wf)
    (hmore : ∀ p ∈ more, Punct cSlash p.1 ∧ p.2.Wf) (hfuel : (renderSimples first more).length + 1 < fuel) :
    Reads cap (lexSegments cap fuel) SegsStop (renderSimples first more) (toksSimples first more) :=
  lexSegments_sepBy Simple.render Simple.toks Simple.Wf lexSegment_simple hf hmore hfuel

/-- `"." IDENT` repeated. -/
abbrev Dotted := List (Rune × List Rune)

def renderDotted (d : Dotted) : List Rune := d.flatMap fun p => p.1 :: p.2
def toksDotted (d : Dotted) : List Tok := d.flatMap fun p => [⟨.dot, p.1.bytes⟩, ⟨.ident, runesBytes p.2⟩]

def WfIdent (run : List Rune) : Prop := run ≠ [] ∧ ∀ r ∈ run, r.ident = true
def WfDotted (d : Dotted) : Prop := ∀ p ∈ d, (p.1.ch = cDot ∧ p.1.ident = false) ∧ WfIdent p.2

instance (run : List Rune) : Decidable (WfIdent run) := by unfold WfIdent; infer_instance
instance (d : Dotted) : Decidable (WfDotted d) := by unfold WfDotted; infer_instance

theorem renderDotted_cons (p : Rune × List Rune) (d : Dotted) :
    renderDotted (p :: d) = p.1 :: (p.2 ++ renderDotted d) := rfl

theorem toksDotted_cons (p : Rune × List Rune) (d : Dotted) :
    toksDotted (p :: d) = ⟨.dot, p.1.bytes⟩ :: ⟨.ident, runesBytes p.2⟩ :: toksDotted d := rfl

/-- what may follow a field path: not another identifier rune, not a dot. -/
def PathStop (r : Rune) : Prop := r.ident = false ∧ r.ch ≠ cDot

theorem Punct.pathStop {c : Nat} {r : Rune} (h : Punct c r) (hc : c ≠ cDot) : PathStop r := ⟨h.2.2.1, h.ne hc⟩

theorem WfDotted.follow {d : Dotted} (hd : WfDotted d) {rest : List Rune} (hrest : Follow PathStop rest) :
    Follow (·.ident = false) (renderDotted d ++ rest) := by
  cases d with
  | nil => exact hrest.imp fun _ h => h.1
  | cons q d => exact .cons (hd q (.head _)).1.2

theorem lexFieldPathTail_complete {cap : Nat} {d : Dotted} (hwf : WfDotted d) {fuel : Nat} (hfuel : d.length ≤ fuel) :
    Reads cap (lexFieldPathTail cap fuel) PathStop (renderDotted d) (toksDotted d) := by
  intro toks rest more hcap hrest
  induction d generalizing fuel toks with
  | nil =>
    rw [toksDotted, List.flatMap_nil, List.append_nil]
    obtain _ | fuel := fuel
    · rfl
    obtain _ | ⟨r, rest⟩ := rest
    · rfl
    exact if_neg (mt beq_iff_eq.1 (hrest r rfl).2)
  | cons p d ih =>
    obtain ⟨dot, run⟩ := p
    obtain ⟨⟨hdot, -⟩, hne, hall⟩ : (dot.ch = cDot ∧ _) ∧ WfIdent run := hwf _ (.head _)
    have hwf' : WfDotted d := fun q hq => hwf q (.tail _ hq)
    obtain _ | fuel := fuel
    · cases hfuel
    rw [toksDotted_cons] at hcap ⊢
    rw [renderDotted_cons, List.cons_append, List.append_assoc]
    simp only [lexFieldPathTail, hdot, beq_self_eq_true, ↓reduceIte, emitOne_ok hcap,
      lexRun_ok hne hall hcap.tail (hwf'.follow hrest), ih hwf' (Nat.le_of_succ_le_succ hfuel) hcap.tail.tail]
    simp only [List.append_assoc, List.cons_append, List.nil_append]

theorem lexFieldPath_complete {cap : Nat} {ident : List Rune} {d : Dotted} (hi : WfIdent ident) (hd : WfDotted d) :
    Reads cap (lexFieldPath cap) PathStop (ident ++ renderDotted d)
      (⟨.ident, runesBytes ident⟩ :: toksDotted d) := by
  intro toks rest more hcap hrest
  simp only [List.append_assoc, lexFieldPath, lexRun_ok hi.1 hi.2 hcap (hd.follow hrest)]
  rw [lexFieldPathTail_complete hd _ hcap.tail hrest, List.append_assoc]
  · rfl
  · rw [List.length_append]
    exact Nat.le_trans (length_le_renderPath d) (Nat.le_add_right _ _)

/-- `"{" FieldPath [ "=" Segments ] "}"` with simple segments in the sub-pattern. -/
structure VarT where
  lbrace : Rune
  ident : List Rune
  dotted : Dotted
  sub : Option (Rune × Simple × List (Rune × Simple))
  rbrace : Rune

def VarT.subRender (v : VarT) : List Rune :=
  match v.sub with
  | none => []
  | some (eq, f, more) => eq :: renderSimples f more

def VarT.subToks (v : VarT) : List Tok :=
  match v.sub with
  | none => []
  | some (eq, f, more) => ⟨.equal, eq.bytes⟩ :: toksSimples f more

def VarT.render (v : VarT) : List Rune :=
  v.lbrace :: (v.ident ++ (renderDotted v.dotted ++ (v.subRender ++ [v.rbrace])))

def VarT.toks (v : VarT) : List Tok :=
  ⟨.varStart, v.lbrace.bytes⟩ :: ⟨.ident, runesBytes v.ident⟩ ::
    (toksDotted v.dotted ++ (v.subToks ++ [⟨.varEnd, v.rbrace.bytes⟩]))

def VarT.Wf (v : VarT) : Prop :=
  Punct cLBrace v.lbrace ∧ WfIdent v.ident ∧ WfDotted v.dotted ∧ Punct cRBrace v.rbrace ∧
  match v.sub with
  | none => True
  | some (eq, f, more) => Punct cEq eq ∧ f.Wf ∧ ∀ p ∈ more, Punct cSlash p.1 ∧ p.2.Wf

theorem lexClose_ok {cap : Nat} {toks more : List Tok} {rb : Rune} {rest : List Rune} (hrb : Punct cRBrace rb)
    (hcap : Fits cap toks (⟨.varEnd, rb.bytes⟩ :: more)) :
    lexClose cap ⟨toks, rb :: rest⟩ = .ok ⟨toks ++ [⟨.varEnd, rb.bytes⟩], rest⟩ := by
  simp only [lexClose, hrb.1, beq_self_eq_true, ↓reduceIte, emitOne_ok hcap]

theorem lexVariable_complete {cap : Nat} {v : VarT} (hv : v.Wf) {fuel : Nat} (hfuel : v.render.length ≤ fuel) :
    Reads cap (lexVariable cap fuel) (fun _ => True) v.render v.toks := by
  intro toks rest after hcap _
  obtain ⟨hlb, hi, hd, hrb, hsub⟩ := hv
  obtain _ | fuel := fuel
  · cases hfuel
  simp only [VarT.toks, List.cons_append, List.append_assoc, List.nil_append] at hcap
  have hfp {rest' : List Rune} (hrest' : Follow PathStop rest') :=
    List.append_assoc .. ▸ lexFieldPath_complete hi hd hcap.tail hrest'
  have hcap2 := hcap.tail.right (a := _ :: _)
  simp only [VarT.render, VarT.subRender, VarT.subToks] at hcap2 hfuel ⊢
  cases hs : v.sub with
  | none =>
    simp only [hs, List.nil_append] at hcap2
    simp only [List.nil_append, List.cons_append, List.append_assoc]
    simp only [lexVariable, hlb.1, bne_self_eq_false, Bool.false_eq_true, ↓reduceIte, emitOne_ok hcap,
      hfp (.cons (hrb.pathStop (by decide))), beq_iff_eq, hrb.ne (by decide : cRBrace ≠ cEq), lexClose_ok hrb hcap2]
    simp only [VarT.toks, VarT.subToks, hs, List.append_assoc, List.cons_append, List.nil_append]
  | some x =>
    obtain ⟨eq, f, more⟩ := x
    obtain ⟨heq, hf, hmore⟩ := hs ▸ hsub
    simp only [hs, List.cons_append] at hcap2 hfuel
    simp only [List.nil_append, List.cons_append, List.append_assoc]
    have hsegs := lexSegments_simples (fuel := fuel) hf hmore
      (by simp only [List.length_cons, List.length_append] at hfuel; omega)
      hcap2.tail (rest := v.rbrace :: rest) (.cons ⟨hrb.segStop (by decide), hrb.ne (by decide)⟩)
    simp only [lexVariable, hlb.1, bne_self_eq_false, Bool.false_eq_true, ↓reduceIte, emitOne_ok hcap,
      hfp (.cons (heq.pathStop (by decide))), heq.1, beq_self_eq_true, emitOne_ok hcap2, hsegs,
      lexClose_ok hrb hcap2.tail.right]
    simp only [VarT.toks, VarT.subToks, hs, List.append_assoc, List.cons_append, List.nil_append]

inductive Seg where
  | simple (s : Simple)
  | var (v : VarT)

def Seg.render : Seg → List Rune
  | .simple s => s.render
  | .var v => v.render

def Seg.toks : Seg → List Tok
  | .simple s => s.toks
  | .var v => v.toks

def Seg.Wf : Seg → Prop
  | .simple s => s.Wf
  | .var v => v.Wf

theorem lexSegment_seg {cap : Nat} {g : Seg} (hg : g.Wf) {fuel : Nat} (hfuel : g.render.length < fuel) :
    Reads cap (lexSegment cap fuel) SegStop g.render g.toks := by
  cases g with
  | simple s => exact lexSegment_simple hg hfuel
  | var v =>
    obtain _ | fuel := fuel
    · cases hfuel
    intro toks rest more hcap _
    have hlb : Punct cLBrace v.lbrace := hg.1
    refine .trans ?_ (lexVariable_complete hg (Nat.le_of_lt_succ hfuel) hcap fun _ _ => trivial)
    simp only [Seg.render, VarT.render, List.cons_append, lexSegment, hlb.2.2.2, hlb.1, Bool.false_eq_true, ↓reduceIte,
      beq_self_eq_true, show (cLBrace == cStar) = false from rfl]

def renderSegs (first : Seg) (more : List (Rune × Seg)) : List Rune :=
  first.render ++ more.flatMap fun p => p.1 :: p.2.render

def toksSegs (first : Seg) (more : List (Rune × Seg)) : List Tok :=
  first.toks ++ more.flatMap fun p => ⟨.slash, p.1.bytes⟩ :: p.2.toks

theorem lexSegments_segs {cap : Nat} {first : Seg} {more : List (Rune × Seg)} {fuel : Nat} (hf : first.Wf)
    (hmore : ∀ p ∈ more, Punct cSlash p.1 ∧ p.2.Wf) (hfuel : (renderSegs first more).length + 1 < fuel) :
    Reads cap (lexSegments cap fuel) SegsStop (renderSegs first more) (toksSegs first more) :=
  lexSegments_sepBy Seg.render Seg.toks Seg.Wf lexSegment_seg hf hmore hfuel

/-- `"/" Segments [ ":" LITERAL ]` -/
structure Tmpl where
  slash : Rune
  first : Seg
  more : List (Rune × Seg)
  verb : Option (Rune × List Rune)

def Tmpl.verbRender (t : Tmpl) : List Rune :=
  match t.verb with
  | none => []
  | some (colon, run) => colon :: run

def Tmpl.verbToks (t : Tmpl) : List Tok :=
  match t.verb with
  | none => []
  | some (colon, run) => [⟨.verb, colon.bytes⟩, ⟨.literal, runesBytes run⟩]

def Tmpl.render (t : Tmpl) : List Rune := t.slash :: (renderSegs t.first t.more ++ t.verbRender)

def Tmpl.toks (t : Tmpl) : List Tok :=
  ⟨.slash, t.slash.bytes⟩ :: (toksSegs t.first t.more ++ (t.verbToks ++ [⟨.eof, []⟩]))

def Tmpl.Wf (t : Tmpl) : Prop :=
  Punct cSlash t.slash ∧ t.first.Wf ∧ (∀ p ∈ t.more, Punct cSlash p.1 ∧ p.2.Wf) ∧
  match t.verb with
  | none => True
  | some (colon, run) => Punct cColon colon ∧ run ≠ [] ∧ ∀ r ∈ run, r.literal = true

theorem lexTemplate_complete (cap : Nat) (t : Tmpl) (ht : t.Wf) (hcap : t.toks.length ≤ cap) :
    lexTemplate cap t.render = .ok t.toks := by
  obtain ⟨hsl, hfirst, hmore, hverb⟩ := ht
  have hcap0 : Fits cap [] t.toks := Nat.le_trans (Nat.le_of_eq (Nat.zero_add _)) hcap
  have hcap1 : Fits cap [⟨.slash, t.slash.bytes⟩] _ := hcap0.tail
  have hcap2 := hcap1.right
  have hrest : Follow SegsStop t.verbRender := by
    unfold Tmpl.verbRender
    cases hv : t.verb with
    | none => exact .nil
    | some x => rw [hv] at hverb; exact .cons ⟨hverb.1.segStop (by decide), hverb.1.ne (by decide)⟩
  simp only [lexTemplate, Tmpl.render, hsl.1, bne_self_eq_false, Bool.false_eq_true, ↓reduceIte,
    emitOne_ok hcap0, List.nil_append]
  rw [lexSegments_segs hfirst hmore (by simp only [List.length_cons, List.length_append]; omega) hcap1 hrest]
  simp only [Tmpl.verbRender, Tmpl.verbToks] at hcap2 ⊢
  cases hv : t.verb with
  | none =>
    simp only [hv, List.nil_append] at hcap2 ⊢
    rw [emit_ok hcap2]
    simp only [Tmpl.toks, Tmpl.verbToks, hv, List.cons_append, List.nil_append]
  | some x =>
    obtain ⟨colon, run⟩ := x
    obtain ⟨hcol, hne, hall⟩ := hv ▸ hverb
    simp only [hv, List.cons_append, List.nil_append] at hcap2 ⊢
    have hrun := lexRun_ok (ty := .literal) hne hall hcap2.tail .nil
    rw [List.append_nil] at hrun
    simp only [hcol.1, beq_self_eq_true, ↓reduceIte, emitOne_ok hcap2, hrun, emit_ok hcap2.tail.tail]
    simp only [Tmpl.toks, Tmpl.verbToks, hv, List.append_assoc, List.cons_append, List.nil_append]

end Larking.Lexer
