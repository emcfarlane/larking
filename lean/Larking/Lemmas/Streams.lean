import Larking.Model.Streams
import Larking.Lemmas.JsonBody
namespace Larking.Streams
open Larking.Codec Larking.Status

theorem readMsg_ok (k : CodecK) (limit spare : Nat) (s : HS) (hE : s.rEOF = false)
    {dst : Buf} {n : Nat} {e' : Env}
    (h : readNextK k s.env ⟨s.rbuf, spare⟩ limit = (.ok ⟨dst, n, none⟩, e')) (hn : n ≤ dst.data.length) :
    readMsg k limit spare s = (.msg (dst.data.take n),
      { s with recvCount := s.recvCount + 1, env := e', rbuf := dst.data.drop n }) := by
  simp only [readMsg, hE, h, finishRead, Nat.not_lt.2 hn, Bool.false_eq_true, if_false]

/-- the `switch` after `ReadNext` in `readMsg`: io.EOF is the clean end only if no byte is left
over. -/
theorem readMsg_err (k : CodecK) (limit spare : Nat) (s : HS) (hE : s.rEOF = false)
    {dst : Buf} {err : RErr} {e' : Env}
    (h : readNextK k s.env ⟨s.rbuf, spare⟩ limit = (.ok ⟨dst, 0, some err⟩, e')) :
    (err = .eof → dst.data = [] → ∃ s', readMsg k limit spare s = (.eof, s')) ∧
    ((err = .eof → 0 < dst.data.length) → ∃ x s', readMsg k limit spare s = (.err x, s')) := by
  simp only [readMsg, hE, h, finishRead, Nat.not_lt_zero, Bool.false_eq_true, if_false]
  constructor
  · rintro rfl hd; simp [hd]
  · intro hne
    cases err with
    | eof => simp only [hne rfl, if_true]; exact ⟨_, _, rfl⟩
    | _ => exact ⟨_, _, rfl⟩

/-- generic in the codec (`hframe` is its frame law), with any `tail` and any fuel `n` left: the sequence
and the truncation laws of both codecs are instances. -/
theorem recvAll_frames (k : CodecK) (limit : Nat) (enc : Bytes → Bytes) (P : Bytes → Prop)
    (hframe : ∀ e b m rest, P m → b.data ++ e.data = enc m ++ rest →
      ∃ dst e', readNextK k e b limit = (.ok ⟨dst, m.length, none⟩, e') ∧
        dst.data.take m.length = m ∧ dst.data.drop m.length ++ e'.data = rest)
    (tail : Bytes) (n : Nat) (ms : List Bytes) (spares : List Nat) (s : HS) (hE : s.rEOF = false)
    (hP : ∀ m ∈ ms, P m) (hW : s.rbuf ++ s.env.data = (ms.map enc).flatten ++ tail) :
    ∃ spares' s', s'.rEOF = false ∧ s'.rbuf ++ s'.env.data = tail ∧
      recvAll k limit (ms.length + n) spares s = ms.map .msg ++ recvAll k limit n spares' s' := by
  induction ms generalizing spares s with
  | nil => exact ⟨spares, s, hE, hW, by simp⟩
  | cons m ms ih =>
    obtain ⟨dst, e', h, ht, hd⟩ := hframe s.env ⟨s.rbuf, spares.headD 0⟩ m _ (hP m (by simp))
      (hW.trans (List.append_assoc ..))
    have hle : m.length ≤ dst.data.length := by
      have := List.length_take_le' m.length dst.data; rwa [ht] at this
    obtain ⟨sp', s', hE', hW', h'⟩ := ih spares.tail
      { s with recvCount := s.recvCount + 1, env := e', rbuf := dst.data.drop m.length } hE
      (fun x hx => hP x (by simp [hx])) hd
    exact ⟨sp', s', hE', hW', by
      simp only [List.length_cons, Nat.add_right_comm _ 1 n, recvAll, recvMsgHttp,
        readMsg_ok k limit _ s hE h hle, ht, h', List.map_cons, List.cons_append]⟩

theorem proto_readNextK_frame (limit : Nat) (e : Env) (b : Buf) (m rest : Bytes)
    (hm : m.length ≤ limit ∧ m.length ≤ maxInt) (hW : b.data ++ e.data = protoWriteNext m ++ rest) :
    ∃ dst e', readNextK .proto e b limit = (.ok ⟨dst, m.length, none⟩, e') ∧
      dst.data.take m.length = m ∧ dst.data.drop m.length ++ e'.data = rest :=
  proto_frame e b limit m rest hW hm.1 hm.2

theorem readNextK_json {e : Env} {b : Buf} {limit : Nat} {r : Result} {e' : Env}
    (h : jsonReadNext e b limit = (r, e')) : readNextK .json e b limit = (.ok r, e') := by
  simp only [readNextK, h]

theorem json_readNextK_frame (limit : Nat) (e : Env) (b : Buf) (m rest : Bytes)
    (hm : m.length ≤ limit ∧ JsonFrame m) (hW : b.data ++ e.data = jsonWriteNext m ++ rest) :
    ∃ dst e', readNextK .json e b limit = (.ok ⟨dst, m.length, none⟩, e') ∧
      dst.data.take m.length = m ∧ dst.data.drop m.length ++ e'.data = rest := by
  obtain ⟨dst, e', h, r⟩ := json_frame e b limit m rest hW hm.2 hm.1
  exact ⟨dst, e', readNextK_json h, r⟩

theorem http_recv_sequence_proto (limit : Nat) (ms : List Bytes) :
    ∀ (spares : List Nat) (s : HS), s.rEOF = false →
    (∀ m ∈ ms, m.length ≤ limit ∧ m.length ≤ maxInt) →
    s.rbuf ++ s.env.data = (ms.map protoWriteNext).flatten →
    recvAll .proto limit (ms.length + 1) spares s = ms.map .msg ++ [.eof] := by
  intro spares s hE hall hW
  obtain ⟨sp', s', hE', hW', h⟩ := recvAll_frames .proto limit _ _ (proto_readNextK_frame limit)
    [] 1 ms spares s hE hall (by simpa using hW)
  obtain ⟨dst, e', he, hd⟩ := proto_empty s'.env ⟨s'.rbuf, sp'.headD 0⟩ limit hW'
  obtain ⟨s'', h'⟩ := (readMsg_err .proto limit _ s' hE' he).1 rfl hd
  rw [h]; simp only [recvAll, recvMsgHttp, h']; rfl

theorem http_recv_truncated_proto (limit : Nat) (m : Bytes) (k : Nat)
    (hk1 : 0 < k) (hk2 : k < (protoWriteNext m).length)
    (hlim : m.length ≤ limit) (hint : m.length ≤ maxInt) (ms : List Bytes) :
    ∀ (spares : List Nat) (s : HS), s.rEOF = false →
    (∀ m ∈ ms, m.length ≤ limit ∧ m.length ≤ maxInt) →
    s.rbuf ++ s.env.data = (ms.map protoWriteNext).flatten ++ (protoWriteNext m).take k →
    ∃ x, recvAll .proto limit (ms.length + 1) spares s = ms.map .msg ++ [.err x] := by
  intro spares s hE hall hW
  obtain ⟨sp', s', hE', hW', h⟩ := recvAll_frames .proto limit _ _ (proto_readNextK_frame limit)
    _ 1 ms spares s hE hall hW
  obtain ⟨dst, err, e', he, hne⟩ :=
    proto_truncated s'.env ⟨s'.rbuf, sp'.headD 0⟩ limit m k hk1 hk2 hW' hlim hint
  obtain ⟨x, s'', h'⟩ := (readMsg_err .proto limit _ s' hE' he).2 hne
  exact ⟨x, by rw [h]; simp only [recvAll, recvMsgHttp, h']⟩

theorem http_recv_truncated_json (limit : Nat) (m : Bytes) (k : Nat)
    (hm : JsonFrame m) (hk1 : 0 < k) (hk2 : k < m.length) (ms : List Bytes) :
    ∀ (spares : List Nat) (s : HS), s.rEOF = false →
    (∀ m ∈ ms, m.length ≤ limit ∧ JsonFrame m) →
    s.rbuf ++ s.env.data = (ms.map jsonWriteNext).flatten ++ (jsonWriteNext m).take k →
    ∃ x, recvAll .json limit (ms.length + 1) spares s = ms.map .msg ++ [.err x] := by
  intro spares s hE hall hW
  obtain ⟨sp', s', hE', hW', h⟩ := recvAll_frames .json limit _ _ (json_readNextK_frame limit)
    _ 1 ms spares s hE hall hW
  obtain ⟨dst, err, e', he, hne⟩ := json_truncated s'.env ⟨s'.rbuf, sp'.headD 0⟩ limit m k hm hk2 hW'
  obtain ⟨x, s'', h'⟩ := (readMsg_err .json limit _ s' hE' (readNextK_json he)).2
    (fun h => by rw [hne h, List.length_take]; exact Nat.lt_min.2 ⟨hk1, Nat.lt_trans hk1 hk2⟩)
  exact ⟨x, by rw [h]; simp only [recvAll, recvMsgHttp, h']⟩

theorem readNextK_safe (k : CodecK) (e : Env) (b : Buf) (limit : Nat) :
    ∃ r e', readNextK k e b limit = (.ok r, e') ∧ r.n ≤ r.dst.data.length ∧ r.n ≤ limit := by
  cases k with
  | proto =>
    obtain ⟨r, e', h, hn, herr, hlim⟩ := proto_safe e b limit
    refine ⟨r, e', h, hn, ?_⟩
    cases hre : r.err with
    | none => exact hlim hre
    | some x => rw [herr (by simp [hre])]; exact Nat.zero_le _
  | json => exact ⟨_, _, rfl, (json_safe e b limit).1, (json_safe e b limit).2.1⟩
  | body => exact ⟨_, _, rfl, (body_chunk e b limit).2.2.1, (body_chunk e b limit).2.1⟩

theorem finishRead_safe (s1 : HS) (r : Result) (e' : Env) (limit : Nat)
    (h1 : r.n ≤ r.dst.data.length) (h2 : r.n ≤ limit) :
    (finishRead s1 r e').1 ≠ .panic ∧ ∀ b, (finishRead s1 r e').1 = .msg b → b.length ≤ limit := by
  have hmsg : ∀ b, Recv.msg (r.dst.data.take r.n) = .msg b → b.length ≤ limit := by
    rintro b ⟨rfl⟩; exact Nat.le_trans (List.length_take_le _ _) h2
  fun_cases finishRead s1 r e' with
  | case1 h => exact absurd h1 (Nat.not_le.2 h)
  | case2 | case3 => exact ⟨nofun, hmsg⟩
  | case4 | case5 | case6 => exact ⟨nofun, nofun⟩

theorem readMsg_safe (k : CodecK) (limit spare : Nat) (s : HS) :
    (readMsg k limit spare s).1 ≠ .panic ∧
    (∀ b, (readMsg k limit spare s).1 = .msg b → b.length ≤ limit) ∧
    (s.rEOF = true → (readMsg k limit spare s).1 = .eof) := by
  unfold readMsg
  cases hE : s.rEOF with
  | true => simp
  | false =>
    obtain ⟨r, e', h, h1, h2⟩ := readNextK_safe k s.env ⟨s.rbuf, spare⟩ limit
    simp only [h, Bool.false_eq_true, if_false]
    exact ⟨(finishRead_safe _ r e' limit h1 h2).1, (finishRead_safe _ r e' limit h1 h2).2, nofun⟩

theorem readExactly_prefix (e : Env) (p rest : Bytes) (h : e.data = p ++ rest) :
    ∃ e', readExactly e p.length = (some p, none, e') ∧ e'.data = rest := by
  unfold readExactly
  cases p with
  | nil => exact ⟨e, rfl, h⟩
  | cons c p =>
    have hne : e.data.isEmpty = false := by rw [h]; rfl
    obtain ⟨b, e', hrf, hc, hl⟩ := readFull_ok (b := ⟨[], (c :: p).length⟩) h _ (Nat.zero_le _)
      (by rw [List.length_append]; exact Nat.le_add_right _ _)
    obtain ⟨hb, he'⟩ := List.append_inj hc hl
    simp only [show ((c :: p).length == 0) = false from rfl, hne, hrf, Bool.false_eq_true, if_false]
    exact ⟨e', by rw [hb], he'⟩

theorem readExactly_empty (e : Env) (n : Nat) (hn : 0 < n) (he : e.data = []) :
    ∃ e', readExactly e n = (none, some .eof, e') := by
  unfold readExactly
  have hn' : (n == 0) = false := by simp; omega
  simp [hn', he]

theorem readExactly_short (e : Env) (n : Nat) (h1 : 0 < e.data.length) (h2 : e.data.length < n) :
    ∃ e', readExactly e n = (none, some .unexpectedEOF, e') := by
  have hn' : (n == 0) = false := by simp; omega
  have hne : e.data.isEmpty = false := List.isEmpty_eq_false_iff.2 (List.ne_nil_of_length_pos h1)
  obtain ⟨b, e', hrf⟩ := readFull_short (b := ⟨[], n⟩) (List.nil_append e.data) n h2
  exact ⟨e', by simp only [readExactly, hn', hne, hrf, Bool.false_eq_true, if_false]⟩

theorem readExactly_lt (e : Env) (n : Nat) (h : e.data.length < n) :
    ∃ x e', readExactly e n = (none, some x, e') := by
  rcases Nat.eq_zero_or_pos e.data.length with h0 | hp
  · obtain ⟨e', h'⟩ := readExactly_empty e n (by omega) (List.eq_nil_of_length_eq_zero h0)
    exact ⟨_, e', h'⟩
  · obtain ⟨e', h'⟩ := readExactly_short e n hp h
    exact ⟨_, e', h'⟩

theorem readExactly_length {e : Env} {n : Nat} {bs : Bytes} {r : Option RErr} {e' : Env}
    (h : readExactly e n = (some bs, r, e')) : bs.length = n := by
  by_cases hn : n ≤ e.data.length
  · have hl : (e.data.take n).length = n := by rw [List.length_take]; exact Nat.min_eq_left hn
    obtain ⟨e1, h1, -⟩ := readExactly_prefix e _ _ (List.take_append_drop n e.data).symm
    rw [hl, h] at h1
    cases h1; exact hl
  · obtain ⟨x, e1, h1⟩ := readExactly_lt e n (Nat.lt_of_not_le hn)
    rw [h] at h1; cases h1

theorem be32_length (n : Nat) : (be32 n).length = 4 := rfl

theorem mod_digit (n a : Nat) : n / a % 256 * a + n % a = n % (a * 256) := by
  rw [Nat.mod_mul, Nat.add_comm, Nat.mul_comm]

theorem be32_size (n : Nat) (h : n < 4294967296) :
    (UInt8.ofNat (n / 16777216 % 256)).toNat * 16777216 + (UInt8.ofNat (n / 65536 % 256)).toNat * 65536 +
      (UInt8.ofNat (n / 256 % 256)).toNat * 256 + (UInt8.ofNat (n % 256)).toNat = n := by
  have hm : ∀ x, (UInt8.ofNat (x % 256)).toNat = x % 256 := fun x =>
    toNat_ofNat_of_lt (Nat.mod_lt x (by decide))
  simp only [hm, Nat.add_assoc, mod_digit, Nat.reduceMul]
  exact Nat.mod_eq_of_lt h

/-- `grpcRecv` past a whole header, stated as the rest of its body: `grpc_frame`, `grpc_truncated` and C08's
limit theorems each take their branch of it. -/
theorem grpc_header (gunzip) (maxRecv : Nat) (e : Env) (flag : UInt8) (size : Nat) (tail : Bytes)
    (hW : e.data = flag :: be32 size ++ tail) (h32 : size < 4294967296) :
    ∃ e1, e1.data = tail ∧ grpcRecv gunzip maxRecv e =
      if size > maxRecv then (.err .tooLarge, e1)
      else match readExactly e1 size with
        | (none, _, e2) => (.err .unexpectedEOF, e2)
        | (some payload, _, e2) =>
          if flag == 1 then
            match gunzip with
            | none => (.err .other, e2)
            | some gz =>
              match gz payload with
              | none => (.err .other, e2)
              | some plain => if plain.length > maxRecv then (.err .tooLarge, e2) else (.msg plain, e2)
          else (.msg payload, e2) := by
  obtain ⟨e1, (h1 : readExactly e 5 = _), hd1⟩ := readExactly_prefix e (flag :: be32 size) tail hW
  exact ⟨e1, hd1, by simp only [grpcRecv, h1, be32, be32_size _ h32]; rfl⟩

theorem grpc_frame (gunzip) (maxRecv : Nat) (e : Env) (flag : UInt8) (m rest : Bytes)
    (hflag : flag ≠ 1) (hW : e.data = frame flag m ++ rest) (hlim : m.length ≤ maxRecv)
    (h32 : m.length < 4294967296) :
    ∃ e', grpcRecv gunzip maxRecv e = (.msg m, e') ∧ e'.data = rest := by
  obtain ⟨e1, hd1, h⟩ := grpc_header gunzip maxRecv e flag m.length (m ++ rest)
    (by simpa [frame] using hW) h32
  obtain ⟨e2, h2, hd2⟩ := readExactly_prefix e1 m rest hd1
  rw [h, if_neg (Nat.not_lt.2 hlim), h2]
  exact ⟨e2, by simp [hflag], hd2⟩

theorem grpc_empty (gunzip) (maxRecv : Nat) (e : Env) (h : e.data = []) :
    ∃ e', grpcRecv gunzip maxRecv e = (.eof, e') := by
  unfold grpcRecv
  obtain ⟨e1, h1⟩ := readExactly_empty e 5 (by omega) h
  rw [h1]; exact ⟨e1, rfl⟩

theorem grpc_truncated (gunzip) (maxRecv : Nat) (e : Env) (flag : UInt8) (m : Bytes) (k : Nat)
    (hk1 : 0 < k) (hk2 : k < (frame flag m).length) (hW : e.data = (frame flag m).take k)
    (hlim : m.length ≤ maxRecv) (h32 : m.length < 4294967296) :
    ∃ x e', grpcRecv gunzip maxRecv e = (.err x, e') := by
  have h5 : (flag :: be32 m.length).length = 5 := rfl
  rw [show frame flag m = (flag :: be32 m.length) ++ m from rfl] at hW hk2
  rw [List.length_append, h5] at hk2
  by_cases hk : k < 5
  · have hel : e.data.length = k := by
      rw [hW, List.length_take, List.length_append, h5]; exact Nat.min_eq_left (Nat.le_of_lt hk2)
    obtain ⟨e1, h1⟩ := readExactly_short e 5 (hel ▸ hk1) (hel ▸ hk)
    exact ⟨_, e1, by simp only [grpcRecv, h1]; rfl⟩
  · rw [List.take_append, List.take_of_length_le (Nat.le_of_not_lt hk), h5] at hW
    obtain ⟨e1, hd1, h⟩ := grpc_header gunzip maxRecv e flag m.length _ hW h32
    obtain ⟨x, e2, h2⟩ := readExactly_lt e1 m.length (by
      rw [hd1, List.length_take]; exact Nat.lt_of_le_of_lt (Nat.min_le_left _ _) (by omega))
    exact ⟨_, e2, by rw [h, if_neg (Nat.not_lt.2 hlim), h2]⟩

theorem grpcRecvAll_frames (gunzip) (maxRecv : Nat) (tail : Bytes) (n : Nat) (ms : List Bytes) (e : Env)
    (hall : ∀ m ∈ ms, m.length ≤ maxRecv ∧ m.length < 4294967296)
    (hW : e.data = (ms.map (frame 0)).flatten ++ tail) :
    ∃ e', e'.data = tail ∧
      grpcRecvAll gunzip maxRecv (ms.length + n) e = ms.map .msg ++ grpcRecvAll gunzip maxRecv n e' := by
  induction ms generalizing e with
  | nil => exact ⟨e, hW, by simp⟩
  | cons m ms ih =>
    have hm := hall m (by simp)
    obtain ⟨e1, h, hd⟩ := grpc_frame gunzip maxRecv e 0 m _ (by decide) (hW.trans (List.append_assoc ..)) hm.1 hm.2
    obtain ⟨e', hd', h'⟩ := ih e1 (fun x hx => hall x (by simp [hx])) hd
    exact ⟨e', hd', by
      simp only [List.length_cons, Nat.add_right_comm _ 1 n, grpcRecvAll, h, h', List.map_cons,
        List.cons_append]⟩

theorem grpc_sequence (gunzip) (maxRecv : Nat) (ms : List Bytes) (e : Env)
    (hall : ∀ m ∈ ms, m.length ≤ maxRecv ∧ m.length < 4294967296)
    (hW : e.data = (ms.map (frame 0)).flatten) :
    grpcRecvAll gunzip maxRecv (ms.length + 1) e = ms.map .msg ++ [.eof] := by
  obtain ⟨e', hd, h⟩ := grpcRecvAll_frames gunzip maxRecv [] 1 ms e hall (by simpa using hW)
  obtain ⟨e'', h'⟩ := grpc_empty gunzip maxRecv e' hd
  rw [h]; simp only [grpcRecvAll, h']

theorem grpc_send_limit (maxSend : Nat) (payload : Bytes) :
    (payload.length ≤ maxSend → grpcSend none maxSend payload = some (frame 0 payload)) ∧
    (payload.length > maxSend → grpcSend none maxSend payload = none) :=
  ⟨fun h => if_neg (Nat.not_lt.2 h), fun h => if_pos h⟩

/-- what `SendMsg` writes for a list of replies (those over the send limit are refused and
write nothing). -/
def grpcSendAll (maxSend : Nat) (ms : List Bytes) : Bytes :=
  (ms.filterMap (grpcSend none maxSend)).flatten

theorem grpcSendAll_within (maxSend : Nat) (ms : List Bytes) (h : ∀ m ∈ ms, m.length ≤ maxSend) :
    grpcSendAll maxSend ms = (ms.map (frame 0)).flatten := by
  unfold grpcSendAll
  congr 1
  induction ms with
  | nil => rfl
  | cons m ms ih =>
    rw [List.filterMap_cons_some ((grpc_send_limit maxSend m).1 (h m (by simp))), List.map_cons,
      ih (fun x hx => h x (by simp [hx]))]

theorem grpc_reply_sequence (maxSend clientMax : Nat) (ms : List Bytes) (e : Env)
    (hall : ∀ m ∈ ms, m.length ≤ maxSend ∧ m.length ≤ clientMax ∧ m.length < 4294967296)
    (hW : e.data = grpcSendAll maxSend ms) :
    grpcRecvAll none clientMax (ms.length + 1) e = ms.map .msg ++ [.eof] := by
  rw [grpcSendAll_within maxSend ms (fun m hm => (hall m hm).1)] at hW
  exact grpc_sequence none clientMax ms e (fun m hm => ⟨(hall m hm).2.1, (hall m hm).2.2⟩) hW

theorem unbe32_be32 (n : Nat) (h : n < 4294967296) : unbe32 (be32 n) = some n := by
  simp only [be32, unbe32]
  rw [be32_size n h]

theorem deframe_step (fuel : Nat) (flag : UInt8) (p rest : Bytes) (h : p.length < 4294967296) :
    deframe (fuel + 1) (frame flag p ++ rest) = (deframe fuel rest).map (fun fs => (flag, p) :: fs) := by
  rw [show frame flag p ++ rest = flag :: (be32 p.length ++ (p ++ rest)) by simp [frame], deframe,
    List.take_left' (be32_length _), List.drop_left' (be32_length _), unbe32_be32 _ h]
  simp only [List.length_append, Nat.not_lt.2 (Nat.le_add_right _ _), if_false, List.drop_left,
    List.take_left]

theorem deframe_frames (fs : List (UInt8 × Bytes)) (h : ∀ f ∈ fs, f.2.length < 4294967296) :
    deframe fs.length (fs.map (fun f => frame f.1 f.2)).flatten = some fs := by
  induction fs with
  | nil => simp [deframe]
  | cons f fs ih =>
    have hf := h f (by simp)
    have ih' := ih (fun g hg => h g (by simp [hg]))
    simp only [List.map_cons, List.flatten_cons, List.length_cons]
    rw [deframe_step _ _ _ _ hf, ih']; rfl

theorem web_reply_sequence (maxSend : Nat) (ms : List Bytes) (trailer : Bytes)
    (hall : ∀ m ∈ ms, m.length ≤ maxSend ∧ m.length < 4294967296) (ht : trailer.length < 4294967296) :
    deframe (ms.length + 1) (grpcSendAll maxSend ms ++ frame 128 trailer)
      = some (ms.map (fun m => (0, m)) ++ [(128, trailer)]) := by
  rw [grpcSendAll_within maxSend ms (fun m hm => (hall m hm).1)]
  have := deframe_frames (ms.map (fun m => ((0 : UInt8), m)) ++ [(128, trailer)]) (by
    intro f hf
    simp only [List.mem_append, List.mem_map, List.mem_singleton] at hf
    rcases hf with ⟨m, hm, rfl⟩ | rfl
    · exact (hall m hm).2
    · exact ht)
  simpa [List.map_append, List.flatten_append, Function.comp_def] using this

end Larking.Streams
