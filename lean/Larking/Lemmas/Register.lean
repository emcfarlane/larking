import Larking.Lemmas.Trie
namespace Larking.Trie
open Larking.Lexer

/-- what happens at the end of a rule's way, as an abstract update of what the end node binds: `insertAt`'s facts
(`insertAt_comm`, `insertAt_ok_iff`, `endMA_*`) are stated once for any such update, `register` being `regG`. -/
abbrev GUpd := List (Bytes × Meth) → Option Meth → Outcome (List (Bytes × Meth) × Option Meth)

/-- an update that only touches what the node itself binds (`methods`, `methodAll`). -/
def applyG (g : GUpd) : Node → Outcome Node
  | .mk segs methods all vars =>
    match g methods all with
    | .ok p => .ok (.mk segs p.1 p.2 vars)
    | .err e => .err e
    | .panic s => .panic s

theorem applyG_ok_iff {g : GUpd} {n n' : Node} :
    applyG g n = .ok n' ↔ ∃ p, g n.methods n.all = .ok p ∧ n' = .mk n.segs p.1 p.2 n.vars := by
  obtain ⟨segs, ms, al, vars⟩ := n
  simp only [applyG, Node.methods, Node.all, Node.segs, Node.vars]
  cases g ms al <;> simp [eq_comm]

def regGCore (verb : Bytes) (mid : Nat) (mk : Unit → Outcome Meth) : GUpd := fun methods all =>
  let existing := if verb == starVerb then all else lookupMeth methods verb
  match existing with
  | some e => if e.mid != mid then .err "duplicate-rule" else .ok (methods, all)
  | none =>
    match mk () with
    | .ok m => if verb == starVerb then .ok (methods, some m) else .ok (upsertMeth methods verb m, all)
    | .err k => .err k
    | .panic s => .panic s

theorem registerCore_eq_applyG (verb : Bytes) (mid : Nat) (mk : Unit → Outcome Meth) (n : Node) :
    registerCore n verb mid mk = applyG (regGCore verb mid mk) n := by
  obtain ⟨segs, methods, all, vars⟩ := n
  rw [registerCore, applyG, regGCore]
  cases (if verb == starVerb then all else lookupMeth methods verb) with
  | some e => dsimp only; cases e.mid != mid <;> rfl
  | none =>
    cases mk () with
    | ok m => cases verb == starVerb <;> rfl
    | err k => rfl
    | panic s => rfl

/-- `register` as an end-of-way update: the method record first, then the slot. -/
def regG (verb : Bytes) (mid : Nat) (mk : Unit → Outcome Meth) : GUpd := fun methods all =>
  match mk () with
  | .ok m => regGCore verb mid (fun _ => .ok m) methods all
  | .err k => .err k
  | .panic s => .panic s

theorem register_eq_applyG (verb : Bytes) (mid : Nat) (mk : Unit → Outcome Meth) (n : Node) :
    register n verb mid mk = applyG (regG verb mid mk) n := by
  obtain ⟨segs, methods, all, vars⟩ := n
  cases hm : mk () with
  | ok m => simp only [register, hm, registerCore_eq_applyG, applyG, regG]
  | err e => simp [register, applyG, regG, hm]
  | panic s => simp [register, applyG, regG, hm]

theorem register_ok_iff {n n' : Node} {verb : Bytes} {mid : Nat} {mk : Unit → Outcome Meth} :
    register n verb mid mk = .ok n' ↔
      ∃ p, regG verb mid mk n.methods n.all = .ok p ∧ n' = .mk n.segs p.1 p.2 n.vars := by
  rw [register_eq_applyG, applyG_ok_iff]

def slotOf (verb : Bytes) (ms : List (Bytes × Meth)) (al : Option Meth) : Option Meth :=
  if verb == starVerb then al else lookupMeth ms verb

abbrev MA := List (Bytes × Meth) × Option Meth

def setSlot (verb : Bytes) (m : Meth) (s : MA) : MA :=
  if verb == starVerb then (s.1, some m) else (upsertMeth s.1 verb m, s.2)

theorem slotOf_setSlot (v v' : Bytes) (m : Meth) (s : MA) :
    slotOf v' (setSlot v m s).1 (setSlot v m s).2 = if v = v' then some m else slotOf v' s.1 s.2 := by
  unfold slotOf setSlot
  by_cases h : v = v'
  · subst h; cases v == starVerb <;> simp [lookupMeth_upsert]
  · rw [if_neg h]
    cases hs : v == starVerb <;> cases hs' : v' == starVerb
    · exact (lookupMeth_upsert ..).trans (if_neg h)
    · rfl
    · rfl
    · exact absurd ((beq_iff_eq.mp hs).trans (beq_iff_eq.mp hs').symm) h

theorem setSlot_comm {v v' : Bytes} (h : v ≠ v') (m m' : Meth) (s : MA) :
    setSlot v' m' (setSlot v m s) = setSlot v m (setSlot v' m' s) := by
  unfold setSlot
  cases hs : v == starVerb <;> cases hs' : v' == starVerb
  · exact congrArg (·, s.2) (upsertKV_comm h)
  · rfl
  · rfl
  · exact absurd ((beq_iff_eq.mp hs).trans (beq_iff_eq.mp hs').symm) h

theorem regG_ok_iff {verb : Bytes} {mid : Nat} {mk : Unit → Outcome Meth} {ms al} {p : MA} :
    regG verb mid mk ms al = .ok p ↔ ∃ m, mk () = .ok m ∧
      match slotOf verb ms al with
      | some e => e.mid = mid ∧ p = (ms, al)
      | none => p = setSlot verb m (ms, al) := by
  rw [regG]
  cases mk () with
  | ok m =>
    simp only [regGCore, slotOf, setSlot, Outcome.ok.injEq, exists_eq_left']
    cases (if verb == starVerb then al else lookupMeth ms verb) with
    | some e =>
      by_cases he : e.mid = mid
      · simp only [he, bne_self_eq_false, Bool.false_eq_true, if_false, Outcome.ok.injEq, true_and]; exact eq_comm
      · simp [he]
    | none => rw [← apply_ite Outcome.ok, Outcome.ok.injEq]; exact eq_comm
  | err _ | panic _ => simp only [reduceCtorEq, false_and, exists_false]

theorem regG_accepted_iff {verb : Bytes} {mid : Nat} {mk : Unit → Outcome Meth} {ms al} :
    (∃ p, regG verb mid mk ms al = .ok p) ↔ (∃ m, mk () = .ok m) ∧ ∀ e, slotOf verb ms al = some e → e.mid = mid := by
  constructor
  · rintro ⟨p, h⟩
    obtain ⟨m, hm, c⟩ := regG_ok_iff.mp h
    exact ⟨⟨m, hm⟩, fun e he => by rw [he] at c; exact c.1⟩
  · rintro ⟨⟨m, hm⟩, he⟩
    cases hs : slotOf verb ms al with
    | none => exact ⟨_, regG_ok_iff.mpr ⟨m, hm, by rw [hs]⟩⟩
    | some e => exact ⟨_, regG_ok_iff.mpr ⟨m, hm, by rw [hs]; exact ⟨he e hs, rfl⟩⟩⟩

theorem register_ok_cases {n n' : Node} {verb : Bytes} {mid : Nat} {mk : Unit → Outcome Meth}
    (h : register n verb mid mk = .ok n') : ∃ m, mk () = .ok m ∧ (n' = n ∨
      (verb == starVerb) = true ∧ n' = .mk n.segs n.methods (some m) n.vars ∨
      (verb == starVerb) = false ∧ n' = .mk n.segs (upsertMeth n.methods verb m) n.all n.vars) := by
  obtain ⟨p, hp, rfl⟩ := register_ok_iff.mp h
  obtain ⟨m, hm, c⟩ := regG_ok_iff.mp hp
  refine ⟨m, hm, ?_⟩
  cases hs : slotOf verb n.methods n.all <;> simp only [hs] at c
  · subst c
    unfold setSlot
    cases verb == starVerb
    · exact .inr (.inr ⟨rfl, rfl⟩)
    · exact .inr (.inl ⟨rfl, rfl⟩)
  · rw [c.2]; cases n; exact .inl rfl

theorem slotOf_regG_other {v1 v2 : Bytes} (hne : v1 ≠ v2) {mid1 : Nat} {mk1 : Unit → Outcome Meth} {ms al} {p1 : MA}
    (h : regG v1 mid1 mk1 ms al = .ok p1) : slotOf v2 p1.1 p1.2 = slotOf v2 ms al := by
  obtain ⟨m, _, c⟩ := regG_ok_iff.mp h
  cases hs : slotOf v1 ms al <;> simp only [hs] at c
  · rw [c, slotOf_setSlot, if_neg hne]
  · rw [c.2]

theorem slotOf_regG_self {verb : Bytes} {mid : Nat} {mk : Unit → Outcome Meth} {ms al} {p : MA}
    (h : regG verb mid mk ms al = .ok p) : slotOf verb p.1 p.2 ≠ none := by
  obtain ⟨m, _, c⟩ := regG_ok_iff.mp h
  cases hs : slotOf verb ms al <;> simp only [hs] at c
  · rw [c, slotOf_setSlot, if_pos rfl]; exact Option.some_ne_none m
  · rw [c.2, hs]; exact Option.some_ne_none _

/-- the method record `addRule` stores for a parsed binding, or the error of its body selectors. -/
def methOf (b : Binding) (mid : Nat) (p : Parsed) : Unit → Outcome Meth := fun _ =>
  if !b.bodyOk then .err "body-field"
  else if !b.respOk then .err "response-body-field"
  else .ok ⟨mid, p.varfds, b.rule⟩

theorem methOf_ok {b : Binding} {mid : Nat} {p : Parsed} {m : Meth} (h : methOf b mid p () = .ok m) :
    m = ⟨mid, p.varfds, b.rule⟩ := by
  revert h
  fun_cases methOf b mid p () with
  | case1 | case2 => nofun
  | case3 => rintro ⟨⟩; rfl

theorem addBinding_eq {cap : Nat} {resolve : List Bytes → Option Nat} {b : Binding} {toks : List Tok} {p : Parsed}
    (hl : lexTemplate cap b.tmpl = .ok toks) (hp : parseToks resolve (toks.length + 1) toks = .ok p)
    (n : Node) (mid : Nat) :
    addBinding cap resolve n b mid = insertAt n p.edges fun node => register node b.verb mid (methOf b mid p) := by
  simp only [addBinding, hl, hp]; rfl

theorem addBinding_parsed {cap : Nat} {resolve : List Bytes → Option Nat} {n n' : Node} {b : Binding} {mid : Nat}
    (h : addBinding cap resolve n b mid = .ok n') :
    ∃ toks p, lexTemplate cap b.tmpl = .ok toks ∧ parseToks resolve (toks.length + 1) toks = .ok p := by
  revert h
  fun_cases addBinding cap resolve n b mid with
  | case1 | case2 | case3 | case4 => nofun
  | case5 toks hl p hp => exact fun _ => ⟨toks, p, hl, hp⟩

end Larking.Trie
