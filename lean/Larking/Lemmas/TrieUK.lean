import Larking.Lemmas.TrieDelStable
/-
  Every trie the registration functions build holds ONE entry per segment key (`UK`), because the model keeps
  the segment maps as STRICTLY SORTED association lists (`CK`), which the sorted insert-or-replace `upsertKV`
  preserves.  This discharges the representation hypothesis of `Lemmas/TrieDelStable` for every trie reachable by
  accepted registrations.
-/
namespace Larking.Trie

def keysGt {α : Type} (k : Bytes) (l : List (Bytes × α)) : Prop := ∀ p ∈ l, bytesLt k p.1 = true

def SortedKV {α : Type} : List (Bytes × α) → Prop
  | [] => True
  | (k, _) :: rest => keysGt k rest ∧ SortedKV rest

theorem upsertKV_sorted {α : Type} {l : List (Bytes × α)} {key : Bytes} {v : α} :
    SortedKV l → SortedKV (upsertKV l key v) := by
  fun_induction upsertKV l key v with
  | case1 => exact fun _ => ⟨nofun, trivial⟩
  | case2 k' v' rest hk => exact fun hs => ⟨beq_iff_eq.mp hk ▸ hs.1, hs.2⟩
  | case3 k' v' rest _ hlt =>
    refine fun hs => ⟨fun p hp => ?_, hs⟩
    cases hp with
    | head => exact hlt
    | tail _ hp => exact bytesLt_trans hlt (hs.1 p hp)
  | case4 k' v' rest hk hlt ih =>
    refine fun hs => ⟨fun p hp => ?_, ih hs.2⟩
    rcases mem_upsertKV hp with hp | rfl
    · exact hs.1 p hp
    · exact (bytesLt_trichotomy k' key fun he => hk (beq_iff_eq.mpr he)).resolve_right hlt

mutual
  /-- every segment map, at every depth, is strictly sorted by key. -/
  def CK : Node → Prop
    | .mk segs _ _ vars => SortedKV segs ∧ CKSegs segs ∧ CKVars vars
  def CKSegs : List (Bytes × Node) → Prop
    | [] => True
    | (_, c) :: rest => CK c ∧ CKSegs rest
  def CKVars : List (Var × Node) → Prop
    | [] => True
    | (_, c) :: rest => CK c ∧ CKVars rest
end

theorem CK_empty : CK .empty := by simp [Node.empty, CK, CKSegs, CKVars, SortedKV]

theorem CKSegs_iff {l : List (Bytes × Node)} : CKSegs l ↔ ∀ p ∈ l, CK p.2 := by
  induction l with
  | nil => simp [CKSegs]
  | cons p rest ih => simp only [CKSegs, ih, List.forall_mem_cons]

theorem CKVars_iff {l : List (Var × Node)} : CKVars l ↔ ∀ p ∈ l, CK p.2 := by
  induction l with
  | nil => simp [CKVars]
  | cons p rest ih => simp only [CKVars, ih, List.forall_mem_cons]

theorem CK_child {n : Node} (h : CK n) (e : Edge) : CK (child n e) := by
  obtain hc | hc := child_cases n e
  · rw [hc]; exact CK_empty
  · obtain ⟨segs, methods, all, vars⟩ := n
    simp only [CK, CKSegs_iff, CKVars_iff] at h
    cases e with
    | seg key => obtain ⟨_, _, hm⟩ := lookupSeg_mem segs key _ hc; exact h.2.1 _ hm
    | var v => obtain ⟨_, hm, _⟩ := hc; exact h.2.2 _ hm

theorem CK_setChild {n c : Node} (h : CK n) (hc : CK c) (e : Edge) : CK (setChild n e c) := by
  obtain ⟨segs, methods, all, vars⟩ := n
  cases e <;> simp only [setChild, CK, CKSegs_iff, CKVars_iff] at h ⊢
  · exact ⟨upsertKV_sorted h.1, fun p hp => (mem_upsertKV hp).elim (h.2.1 p) (· ▸ hc), h.2.2⟩
  · exact ⟨h.1, h.2.1, fun p hp => (mem_upsertVar hp).elim (h.2.2 p) (·.1 ▸ hc)⟩

theorem insertAt_CK {f : Node → Outcome Node} (hf : ∀ node node', CK node → f node = .ok node' → CK node') :
    ∀ {es : List Edge} {n n' : Node}, CK n → insertAt n es f = .ok n' → CK n' := by
  intro es
  induction es with
  | nil => exact hf _ _
  | cons e es ih =>
    intro n n' hwf h
    obtain ⟨c, hc, rfl⟩ := insertAt_cons_ok.mp h
    exact CK_setChild hwf (ih (CK_child hwf e) hc) e

theorem register_CK {n n' : Node} {verb : Bytes} {mid : Nat} {mk : Unit → Outcome Meth}
    (hwf : CK n) (h : register n verb mid mk = .ok n') : CK n' := by
  obtain ⟨_, _, rfl⟩ := register_ok_iff.mp h
  cases n
  exact hwf

theorem buildAll_CK {cap : Nat} {rs : List (Rule × Nat × (List Bytes → Option Nat))} {n n' : Node}
    (hwf : CK n) (hb : buildAll cap rs n = .ok n') : CK n' :=
  addAll_fold cap (fun a b => CK a → CK b) (fun _ h => h) (fun h1 h2 h => h2 (h1 h)) _
    (fun s _ n n' h hwf => by
      obtain ⟨toks, p, hl, hp⟩ := addBinding_parsed h
      rw [addBinding_eq hl hp] at h
      exact insertAt_CK (fun _ _ => register_CK) hwf h)
    n n' ((buildAll_ok_iff cap rs n).mp hb).2 hwf

theorem SortedKV.pairwise_ne {α : Type} :
    ∀ {l : List (Bytes × α)}, SortedKV l → (l.map (·.1)).Pairwise (· ≠ ·) := by
  intro l
  induction l with
  | nil => exact fun _ => .nil
  | cons _ rest ih =>
    rintro ⟨hk, hs⟩
    rw [List.map_cons, List.pairwise_cons]
    refine ⟨fun k' hk' => ?_, ih hs⟩
    obtain ⟨p, hp, rfl⟩ := List.mem_map.mp hk'
    exact bytesLt_ne (hk p hp)

theorem UK_of_CK {n : Node} (h : CK n) : UK n := by
  induction n using Node.induct with
  | mk segs methods all vars ihs ihv =>
    simp only [CK, CKSegs_iff, CKVars_iff] at h
    exact ⟨UKSegs_iff.mpr ⟨h.1.pairwise_ne, fun p hp => ihs p hp (h.2.1 p hp)⟩,
      UKVars_iff.mpr fun p hp => ihv p hp (h.2.2 p hp)⟩

theorem CKSegs_UK : ∀ (segs : List (Bytes × Node)), CKSegs segs → ∀ p ∈ segs, UK p.2 :=
  fun _ h p hp => UK_of_CK (CKSegs_iff.mp h p hp)

theorem CKVars_UK : ∀ (vars : List (Var × Node)), CKVars vars → UKVars vars :=
  fun _ h => UKVars_iff.mpr fun p hp => UK_of_CK (CKVars_iff.mp h p hp)

theorem buildAll_UK (cap : Nat) (rs : List (Rule × Nat × (List Bytes → Option Nat))) (t : Node)
    (h : buildAll cap rs .empty = .ok t) : UK t :=
  UK_of_CK (buildAll_CK CK_empty h)

end Larking.Trie
