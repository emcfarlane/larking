import Larking.Lemmas.TrieDelReach
/-
  The association lists stand for Go maps, which hold one entry per key: `UK` says so (the
  first entry for a key is the only one).  It is preserved by `delRule` (`delRule_uk`).
  `hconv`: every capture converts (the property's own side condition) — a failed conversion of
  the deleted method's capture ends the variable loop in the code, and without it the
  deletion lets the loop go on to the next variable.
-/
namespace Larking.Trie
open Larking.Lexer

mutual
  def UK : Node → Prop
    | .mk segs _ _ vars => UKSegs segs ∧ UKVars vars
  def UKSegs : List (Bytes × Node) → Prop
    | [] => True
    | (k, c) :: rest => lookupSeg rest k = none ∧ UK c ∧ UKSegs rest
  def UKVars : List (Var × Node) → Prop
    | [] => True
    | (_, c) :: rest => UK c ∧ UKVars rest
end

/-- how the answer to one request may change when method `name` is deleted: another method's answer stays as
it is, a failure stays a failure (of whatever kind).  Nothing is said where the answer was `name`'s or a panic. -/
def Stable (name : Nat) : SRes → SRes → Prop
  | .found m caps, after => m.mid ≠ name → after = .found m caps
  | .fail _, after => ∃ e, after = .fail e
  | .panic _, _ => True

/-- `Stable` for the look into the literal children, where `none` (no child under the key) stands beside the
failures: pruning a dead child turns `some (.fail _)` into `none`. -/
def StableO (name : Nat) : Option SRes → Option SRes → Prop
  | some (.found m caps), after => m.mid ≠ name → after = some (.found m caps)
  | some (.panic _), _ => True
  | some (.fail _), after => after = none ∨ ∃ e, after = some (.fail e)
  | none, after => after = none ∨ ∃ e, after = some (.fail e)

theorem Stable.refl {name : Nat} : ∀ {r}, Stable name r r
  | .found _ _ => fun _ => rfl
  | .fail e => ⟨e, rfl⟩
  | .panic _ => trivial

theorem StableO.refl {name : Nat} : ∀ {r}, StableO name r r
  | some (.found _ _) => fun _ => rfl
  | some (.fail e) => Or.inr ⟨e, rfl⟩
  | some (.panic _) => trivial
  | none => Or.inl rfl

theorem Stable.trans {name : Nat} : ∀ {a b c : SRes}, Stable name a b → Stable name b c → Stable name a c := by
  intro a b c h1 h2
  cases a with
  | found => exact fun hne => by rw [h1 hne] at h2; exact h2 hne
  | fail => obtain ⟨_, rfl⟩ := h1; exact h2
  | panic => trivial

theorem UKSegs_iff {l : List (Bytes × Node)} :
    UKSegs l ↔ (l.map (·.1)).Pairwise (· ≠ ·) ∧ ∀ p ∈ l, UK p.2 := by
  induction l with
  | nil => simp [UKSegs]
  | cons p rest ih =>
    simp only [UKSegs, ih, lookupSeg_eq_none, List.map_cons, List.pairwise_cons, List.forall_mem_cons,
      List.forall_mem_ne]
    constructor
    · rintro ⟨h1, h2, h3, h4⟩; exact ⟨⟨h1, h3⟩, h2, h4⟩
    · rintro ⟨⟨h1, h3⟩, h2, h4⟩; exact ⟨h1, h2, h3, h4⟩

theorem UKVars_iff {l : List (Var × Node)} : UKVars l ↔ ∀ p ∈ l, UK p.2 := by
  induction l with
  | nil => simp [UKVars]
  | cons p rest ih => simp only [UKVars, ih, List.forall_mem_cons]

theorem DelKids.keys {κ : Type} {del : Node → Option Node} {alive : Node → Bool} {l l' : List (κ × Node)}
    (h : DelKids del alive l l') : (l'.map (·.1)).Sublist (l.map (·.1)) := by
  induction h with
  | keep => exact .refl _
  | prune => exact List.sublist_cons_self _ _
  | skip _ _ _ _ _ _ ih => exact ih.cons_cons _

theorem delRule_uk (counts : List String) (name : Nat) :
    ∀ (n n' : Node), UK n → delRule counts name n = some n' → UK n' := by
  intro n
  induction n using Node.induct with
  | mk segs methods all vars ihs ihv =>
    intro n' hw h
    simp only [UK, UKSegs_iff, UKVars_iff] at hw
    rcases delRule_eq_some h with ⟨segs', hd, rfl⟩ | ⟨vars', hd, rfl⟩ | ⟨ms, hd, rfl⟩ <;>
      simp only [UK, UKSegs_iff, UKVars_iff]
    · exact ⟨⟨hw.1.1.sublist hd.keys, hd.forall_mem hw.1.2 fun _ c c' hc => ihs _ hc c' (hw.1.2 _ hc)⟩, hw.2⟩
    · exact ⟨hw.1, hd.forall_mem hw.2 fun _ c c' hc => ihv _ hc c' (hw.2 _ hc)⟩
    · exact hw

theorem delSegs_uk (counts : List String) (name : Nat) :
    ∀ (segs segs' : List (Bytes × Node)), UKSegs segs → delSegs counts name segs = some segs' → UKSegs segs' := by
  intro segs segs' hw h
  rw [UKSegs_iff] at hw ⊢
  exact ⟨hw.1.sublist (delSegs_some h).keys,
    (delSegs_some h).forall_mem hw.2 fun _ c c' hc => delRule_uk counts name c c' (hw.2 _ hc)⟩

theorem delVars_uk (counts : List String) (name : Nat) :
    ∀ (vars vars' : List (Var × Node)), UKVars vars → delVars counts name vars = some vars' → UKVars vars' := by
  intro vars vars' hw h
  rw [UKVars_iff] at hw ⊢
  exact (delVars_some h).forall_mem hw fun _ c c' hc => delRule_uk counts name c c' (hw _ hc)

section
variable {conv : Nat → Bytes → Bool} {verb : Bytes} {name : Nat}

theorem StableO_some {r r' : SRes} (h : Stable name r r') : StableO name (some r) (some r') := by
  cases r with
  | found m caps => exact fun hne => congrArg some (h hne)
  | fail e => exact .inr (h.imp fun _ => congrArg some)
  | panic s => trivial

theorem StableO_gone {r r' : SRes} (h : Stable name r r') (hd : ∀ m caps, r' ≠ .found m caps) :
    StableO name (some r) none := by
  cases r with
  | found m caps => exact fun hne => absurd (h hne) (hd m caps)
  | fail e => exact .inl rfl
  | panic s => trivial

theorem searchVars_cons_stable (hconv : ∀ f t, conv f t = true) (v : Var) {c c' : Node} {rest rest' toks1}
    (hc : ∀ toks, Stable name (search conv verb c toks) (search conv verb c' toks))
    (hr : Stable name (searchVars conv verb rest toks1) (searchVars conv verb rest' toks1)) :
    Stable name (searchVars conv verb ((v, c) :: rest) toks1) (searchVars conv verb ((v, c') :: rest') toks1) := by
  rw [searchVars_cons, searchVars_cons]
  cases varIndex v.toks toks1 0 with
  | panic s => trivial
  | err e => trivial
  | ok oi =>
    cases oi with
    | none => exact hr
    | some i =>
      have ih := hc (toks1.drop i)
      dsimp only
      revert ih
      cases search conv verb c (toks1.drop i) with
      | panic s => exact fun _ => trivial
      | fail e0 => rintro ⟨e, ha⟩; rw [ha]; exact hr
      | found m caps =>
        intro ih
        dsimp only
        by_cases hm : m.mid = name
        · -- a binding of the deleted method answered: nothing is claimed (`hconv`: else the capture
          -- might not convert, which ends the loop with a failure)
          obtain ⟨s, h⟩ | ⟨caps', h⟩ := bindCap_cases hconv (toksString (toks1.take i)) m caps <;> rw [h]
          · trivial
          · exact fun hn => absurd hm hn
        · rw [ih hm]; exact Stable.refl

theorem searchVars_drop_stable (v : Var) {c : Node} (rest toks1)
    (hc : ∀ toks m caps, search conv verb c toks ≠ .found m caps) :
    Stable name (searchVars conv verb ((v, c) :: rest) toks1) (searchVars conv verb rest toks1) := by
  rw [searchVars_cons]
  cases varIndex v.toks toks1 0 with
  | panic s => trivial
  | err e => trivial
  | ok oi =>
    cases oi with
    | none => exact Stable.refl
    | some i =>
      dsimp only
      cases hb : search conv verb c (toks1.drop i) with
      | panic s => trivial
      | fail e0 => exact Stable.refl
      | found m caps => exact absurd hb (hc _ m caps)

theorem search_mk_stable {segs segs' : List (Bytes × Node)} {methods all} {vars vars' : List (Var × Node)}
    (hS : ∀ key toks, StableO name (searchSegs conv verb segs key toks) (searchSegs conv verb segs' key toks))
    (hV : ∀ toks1, Stable name (searchVars conv verb vars toks1) (searchVars conv verb vars' toks1)) :
    ∀ toks, Stable name (search conv verb (.mk segs methods all vars) toks)
      (search conv verb (.mk segs' methods all vars') toks) := by
  intro toks
  obtain _ | ⟨t0, _ | ⟨t1, rest⟩⟩ := toks
  · exact Stable.refl
  · exact Stable.refl
  have hS := hS (t0.val ++ t1.val) rest
  have tail : Stable name
      (if t0.typ == .slash then searchVars conv verb vars (t1 :: rest) else .fail .notFound)
      (if t0.typ == .slash then searchVars conv verb vars' (t1 :: rest) else .fail .notFound) := by
    cases t0.typ == .slash
    · exact Stable.refl
    · exact hV _
  simp only [search]
  revert hS
  cases searchSegs conv verb segs (t0.val ++ t1.val) rest with
  | none => rintro (ha | ⟨e, ha⟩) <;> rw [ha] <;> exact tail
  | some r =>
    cases r with
    | found m caps => exact fun hS hne => by rw [hS hne]
    | panic s => exact fun _ => trivial
    | fail e0 => rintro (ha | ⟨e, ha⟩) <;> rw [ha] <;> exact tail

theorem search_delMeth_stable {segs} {methods ms : List (Bytes × Meth)} {all vars}
    (hd : delMeth methods name = some ms) :
    ∀ toks, Stable name (search conv verb (.mk segs methods all vars) toks)
      (search conv verb (.mk segs ms all vars) toks)
  | [] | [_] => by
    simp only [search]
    cases hl : lookupMeth methods verb with
    | some m => exact fun hne => by rw [delMeth_lookup hd hl fun _ e => Option.some.inj e ▸ hne]
    | none => rw [delMeth_lookup hd hl nofun]; exact Stable.refl
  | _ :: _ :: _ => Stable.refl

variable {del : Node → Option Node} {alive : Node → Bool}
  (ha : ∀ c, alive c = false → ∀ toks m caps, search conv verb c toks ≠ .found m caps)
include ha

/-- the literal children: the child under the key answers as before by `hd`; when it was pruned,
the key being unique, the lookup finds nothing. -/
theorem DelKids.stableSegs {segs segs' : List (Bytes × Node)} (h : DelKids del alive segs segs')
    (hu : (segs.map (·.1)).Pairwise (· ≠ ·))
    (hd : ∀ p ∈ segs, ∀ c', del p.2 = some c' →
      ∀ toks, Stable name (search conv verb p.2 toks) (search conv verb c' toks))
    (key : Bytes) (toks : List Tok) :
    StableO name (searchSegs conv verb segs key toks) (searchSegs conv verb segs' key toks) := by
  induction h with
  | keep k c c' rest hc _ =>
    simp only [searchSegs]
    cases k == key
    · exact StableO.refl
    · exact StableO_some (hd _ (.head _) c' hc toks)
  | prune k c c' rest hc hdead =>
    simp only [searchSegs]
    cases hk : k == key
    · exact StableO.refl
    · rw [searchSegs_eq, lookupSeg_eq_none.mpr fun hm => (List.pairwise_cons.mp hu).1 _ hm (beq_iff_eq.mp hk)]
      exact StableO_gone (hd _ (.head _) c' hc toks) (ha c' hdead toks)
  | skip k c rest rest' _ _ ih =>
    simp only [searchSegs]
    cases k == key
    · exact ih (List.pairwise_cons.mp hu).2 fun p hp => hd p (.tail _ hp)
    · exact StableO.refl

theorem DelKids.stableVars (hconv : ∀ f t, conv f t = true) {vars vars' : List (Var × Node)}
    (h : DelKids del alive vars vars')
    (hd : ∀ p ∈ vars, ∀ c', del p.2 = some c' →
      ∀ toks, Stable name (search conv verb p.2 toks) (search conv verb c' toks))
    (toks1 : List Tok) :
    Stable name (searchVars conv verb vars toks1) (searchVars conv verb vars' toks1) := by
  induction h with
  | keep v c c' rest hc _ =>
    exact searchVars_cons_stable hconv v (hd _ (.head _) c' hc) Stable.refl
  | prune v c c' rest hc hdead =>
    exact (searchVars_cons_stable hconv v (hd _ (.head _) c' hc) Stable.refl).trans
      (searchVars_drop_stable v rest toks1 (ha c' hdead))
  | skip v c rest rest' _ _ ih =>
    exact searchVars_cons_stable hconv v (fun _ => Stable.refl) (ih fun p hp => hd p (.tail _ hp))

end

theorem dead_search {counts : List String} (hs : AliveSound counts) (conv) (verb : Bytes) (n : Node)
    (hn : aliveWith counts n = false) (toks : List Tok) (m : Meth) (caps : Caps) :
    search conv verb n toks ≠ .found m caps := fun h => by
  obtain ⟨es, hr⟩ := search_sound h
  rw [reach_alive hs hr] at hn
  cases hn

theorem delRule_stable {counts : List String} (hs : AliveSound counts) {conv}
    (hconv : ∀ f t, conv f t = true) (verb : Bytes) {name : Nat} {n n' : Node} (huk : UK n)
    (h : delRule counts name n = some n') :
    ∀ toks, Stable name (search conv verb n toks) (search conv verb n' toks) := by
  induction n using Node.induct generalizing n' with
  | mk segs methods all vars ihs ihv =>
    simp only [UK, UKSegs_iff, UKVars_iff] at huk
    have ha := dead_search hs conv verb
    rcases delRule_eq_some h with ⟨segs', hd, rfl⟩ | ⟨vars', hd, rfl⟩ | ⟨ms, hd, rfl⟩
    · exact search_mk_stable (hd.stableSegs ha huk.1.1 fun p hp _ => ihs p hp (huk.1.2 p hp))
        fun _ => Stable.refl
    · exact search_mk_stable (fun _ _ => StableO.refl)
        (hd.stableVars ha hconv fun p hp _ => ihv p hp (huk.2 p hp))
    · exact search_delMeth_stable hd

theorem delSegs_stable (counts : List String) (hs : AliveSound counts) (conv)
    (hconv : ∀ f t, conv f t = true) (verb : Bytes) (name : Nat) :
    ∀ (segs segs' : List (Bytes × Node)), UKSegs segs → delSegs counts name segs = some segs' →
    ∀ key toks, StableO name (searchSegs conv verb segs key toks) (searchSegs conv verb segs' key toks) :=
  fun _ _ huk h => (delSegs_some h).stableSegs (dead_search hs conv verb) (UKSegs_iff.mp huk).1
    fun p hp _ => delRule_stable hs hconv verb ((UKSegs_iff.mp huk).2 p hp)

theorem delVars_stable (counts : List String) (hs : AliveSound counts) (conv)
    (hconv : ∀ f t, conv f t = true) (verb : Bytes) (name : Nat) :
    ∀ (vars vars' : List (Var × Node)), UKVars vars → delVars counts name vars = some vars' →
    ∀ toks1, Stable name (searchVars conv verb vars toks1) (searchVars conv verb vars' toks1) :=
  fun _ _ huk h => (delVars_some h).stableVars (dead_search hs conv verb) hconv
    fun p hp _ => delRule_stable hs hconv verb (UKVars_iff.mp huk p hp)

theorem delAll_stable {counts : List String} (hs : AliveSound counts) {conv}
    (hconv : ∀ f t, conv f t = true) (verb : Bytes) (name : Nat) (fuel : Nat) {n : Node} (huk : UK n)
    (toks : List Tok) : Stable name (search conv verb n toks) (search conv verb (delAll counts name fuel n) toks) :=
  (delAll_induct (P := fun n' => UK n' ∧ Stable name (search conv verb n toks) (search conv verb n' toks))
    (fun n1 n2 hd h => ⟨delRule_uk counts name n1 n2 h.1 hd,
      h.2.trans (delRule_stable hs hconv verb h.1 hd toks)⟩)
    fuel n ⟨huk, Stable.refl⟩).2

end Larking.Trie
