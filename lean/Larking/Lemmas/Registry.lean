import Larking.Model.Registry
namespace Larking.Registry

@[simp] theorem put_same {α : Type} (f : Nat → α) (k : Nat) (v : α) : put f k v k = v := by simp [put]

@[simp] theorem put_other {α : Type} (f : Nat → α) {k k' : Nat} (v : α) (h : k' ≠ k) : put f k v k' = f k' := by
  simp [put, h]

theorem routeOf_append (a b : List (Nat × Nat)) (k : Nat) :
    routeOf (a ++ b) k = (routeOf a k).or (routeOf b k) := by
  induction a with
  | nil => rfl
  | cons e rest ih => simp only [List.cons_append, routeOf]; split <;> simp [ih]

theorem addRule_spec {routes r : List (Nat × Nat)} {key m : Nat} (h : addRule routes key m = some r) :
    (∀ k m', routeOf routes k = some m' → routeOf r k = some m') ∧ routeOf r key = some m := by
  unfold addRule at h
  split at h
  · rename_i m' hm'
    split at h
    · rename_i heq; cases h; exact ⟨fun _ _ ho => ho, heq ▸ hm'⟩
    · cases h
  · rename_i hn
    cases h
    exact ⟨fun k m' ho => by simp [routeOf_append, ho], by simp [routeOf_append, hn, routeOf]⟩

theorem addRules_spec {m : Nat} {keys : List Nat} {routes r : List (Nat × Nat)} (h : addRules routes keys m = some r) :
    (∀ k m', routeOf routes k = some m' → routeOf r k = some m') ∧ ∀ k ∈ keys, routeOf r k = some m := by
  fun_induction addRules routes keys m with
  | case1 => cases h; exact ⟨fun _ _ ho => ho, fun _ hk => nomatch hk⟩
  | case2 => cases h
  | case3 routes key rest r1 h1 ih =>
    obtain ⟨old1, new1⟩ := addRule_spec h1
    obtain ⟨old, new⟩ := ih h
    exact ⟨fun k m' ho => old k m' (old1 k m' ho), List.forall_mem_cons.mpr ⟨old key m new1, new⟩⟩

theorem routeOf_eraseIdx {routes : List (Nat × Nat)} {i : Nat} {e : Nat × Nat} {k m : Nat}
    (hi : routes[i]? = some e) (hne : e.2 ≠ m) (ho : routeOf routes k = some m) :
    routeOf (routes.eraseIdx i) k = some m := by
  induction routes generalizing i with
  | nil => cases hi
  | cons x rest ih =>
    simp only [routeOf] at ho
    cases i with
    | zero =>
      cases hi
      split at ho
      · cases ho; exact absurd rfl hne
      · exact ho
    | succ j =>
      simp only [List.eraseIdx_cons_succ, routeOf]
      split at ho
      · rename_i hk; rw [if_pos hk]; exact ho
      · rename_i hk; rw [if_neg hk]; exact ih hi ho

theorem delRule_other (ch : Chooser) (routes : List (Nat × Nat)) (name : Nat) {k m : Nat}
    (ho : routeOf routes k = some m) (hne : m ≠ name) :
    routeOf (delRule ch routes name) k = some m := by
  unfold delRule
  split
  · exact ho
  · split
    · rename_i e he
      split
      · rename_i hen; exact routeOf_eraseIdx he (hen ▸ hne.symm) ho
      · exact ho
    · exact ho

theorem appendHandler_spec {s s' : St} {ms : MSpec} {owner : Option Nat} {h : H}
    (ha : appendHandler s ms owner = some (s', h)) :
    h = ⟨s.next, ms.method, owner, ms.keys⟩ ∧ s'.conns = s.conns ∧ s'.next = s.next + 1 ∧
    (∀ m, s'.handlers m = s.handlers m ++ if h.method = m then [h] else []) ∧
    (∀ k m, routeOf s.routes k = some m → routeOf s'.routes k = some m) ∧
    ∀ k ∈ h.keys, routeOf s'.routes k = some h.method := by
  unfold appendHandler at ha
  split at ha
  · cases ha
  · rename_i r hr
    cases ha
    obtain ⟨old, new⟩ := addRules_spec hr
    refine ⟨rfl, rfl, rfl, fun m => ?_, old, new⟩
    by_cases hm : ms.method = m
    · subst hm; simp
    · simp [hm, put_other _ _ (Ne.symm hm)]

theorem processAll_spec {owner : Option Nat} {mss : List MSpec} {s s' : St} {hs : List H}
    (hp : processAll s owner mss = some (s', hs)) :
    s'.conns = s.conns ∧ (∀ h ∈ hs, h.owner = owner) ∧ hs.map (·.method) = mss.map (·.method) ∧
    ∀ m, s'.handlers m = s.handlers m ++ hs.filter (fun h => h.method = m) := by
  fun_induction processAll s owner mss generalizing hs with
  | case1 => cases hp; simp
  | case2 => cases hp
  | case3 => cases hp
  | case4 s ms rest s1 h ha s2 hs2 hp2 ih =>
    cases hp
    obtain ⟨hh, hc1, _, hh1, _⟩ := appendHandler_spec ha
    obtain ⟨hc2, ho2, hm2, hh2⟩ := ih hp2
    refine ⟨hc2.trans hc1, List.forall_mem_cons.mpr ⟨by rw [hh], ho2⟩, by simp [hm2, hh], fun m => ?_⟩
    rw [hh2, hh1, List.filter_cons]; by_cases hm : h.method = m <;> simp [hm]

theorem removeOne_eq (ch : Chooser) (s : St) (hd : H) :
    removeOne ch s hd =
      { s with handlers := put s.handlers hd.method ((s.handlers hd.method).filter (· ≠ hd)),
               routes := if (s.handlers hd.method).filter (· ≠ hd) = [] then delRule ch s.routes hd.method
                         else s.routes } := by
  unfold removeOne; simp only; split
  · rename_i he; rw [he]
  · rfl

theorem removeOne_handlers (ch : Chooser) (s : St) (hd : H)
    (hmeth : ∀ m h, h ∈ s.handlers m → h.method = m) (m : Nat) :
    (removeOne ch s hd).handlers m = (s.handlers m).filter (fun h => h ≠ hd) := by
  rw [removeOne_eq]
  by_cases hm : m = hd.method
  · rw [hm]; exact put_same ..
  · refine (put_other _ _ hm).trans (List.filter_eq_self.mpr fun a ha => ?_).symm
    have : a ≠ hd := fun heq => hm (heq ▸ (hmeth m a ha).symm)
    simpa using this

theorem removeOne_routes (ch : Chooser) (s : St) (hd : H) {m k : Nat}
    (hne : (removeOne ch s hd).handlers m ≠ []) (ho : routeOf s.routes k = some m) :
    routeOf (removeOne ch s hd).routes k = some m := by
  rw [removeOne_eq] at hne ⊢
  simp only at hne ⊢
  split
  · rename_i he
    exact delRule_other ch _ _ ho fun hm => hne (by rw [hm, put_same, he])
  · exact ho

theorem foldl_removeOne_conns (ch : Chooser) (hds : List H) (s : St) :
    (hds.foldl (removeOne ch) s).conns = s.conns :=
  List.foldlRecOn (motive := fun s' : St => s'.conns = s.conns) hds _ rfl fun s' h hd _ => by
    rw [removeOne_eq]; exact h

theorem foldl_removeOne_next (ch : Chooser) (hds : List H) (s : St) :
    (hds.foldl (removeOne ch) s).next = s.next :=
  List.foldlRecOn (motive := fun s' : St => s'.next = s.next) hds _ rfl fun s' h hd _ => by
    rw [removeOne_eq]; exact h

theorem foldl_removeOne (ch : Chooser) (hds : List H) (s : St)
    (hmeth : ∀ m h, h ∈ s.handlers m → h.method = m) :
    (∀ m, (hds.foldl (removeOne ch) s).handlers m = (s.handlers m).filter (fun h => h ∉ hds)) ∧
    ∀ m k, (hds.foldl (removeOne ch) s).handlers m ≠ [] → routeOf s.routes k = some m →
      routeOf (hds.foldl (removeOne ch) s).routes k = some m := by
  induction hds generalizing s with
  | nil => exact ⟨fun m => (List.filter_eq_self.mpr fun _ _ => by simp).symm, fun _ _ _ ho => ho⟩
  | cons hd rest ih =>
    have h1 := removeOne_handlers ch s hd hmeth
    obtain ⟨hh, hr⟩ := ih (removeOne ch s hd) fun m h hin =>
      hmeth m h (List.mem_filter.mp (h1 m ▸ hin)).1
    refine ⟨fun m => ?_, fun m k hne ho => hr m k hne (removeOne_routes ch s hd ?_ ho)⟩
    · rw [List.foldl_cons, hh, h1, List.filter_filter]
      exact List.filter_congr fun a _ => by simp [Bool.and_comm]
    · intro he; rw [List.foldl_cons, hh, he] at hne; exact hne rfl

theorem pick_mem {s : St} {m r : Nat} {h : H} (hp : pick s m r = some h) : h ∈ s.handlers m := by
  simp only [pick] at hp
  split at hp
  · exact List.mem_of_getElem? hp
  · cases hp

/-- `pend`: handlers already appended by a registration in progress whose connection entry is
written at its end (`s.conns[cc] = connList{...}` is the last statement of addConnHandler). -/
structure InvW (s : St) (pend : List H) : Prop where
  meth : ∀ m h, h ∈ s.handlers m → h.method = m
  fresh : ∀ m h, h ∈ s.handlers m → h.id < s.next
  uniq : ∀ m m' h h', h ∈ s.handlers m → h' ∈ s.handlers m' → h.id = h'.id → h = h'
  trackedOwner : ∀ c cl, s.conns c = some cl → ∀ h ∈ cl.handlers, h.owner = some c
  trackedLive : ∀ c cl, s.conns c = some cl → ∀ h ∈ cl.handlers, h ∈ s.handlers h.method
  ownedTracked : ∀ m h c, h ∈ s.handlers m → h.owner = some c →
      (∃ cl, s.conns c = some cl ∧ h ∈ cl.handlers) ∨ h ∈ pend
  routed : ∀ m h k, h ∈ s.handlers m → k ∈ h.keys → routeOf s.routes k = some m

abbrev Inv (s : St) : Prop := InvW s []

theorem inv_init : Inv St.init := by
  constructor <;> simp [St.init]

theorem InvW.append {s s' : St} {pend : List H} {ms : MSpec} {owner : Option Nat} {h : H} (hi : InvW s pend)
    (ha : appendHandler s ms owner = some (s', h)) : InvW s' (pend ++ [h]) := by
  obtain ⟨hid, hc, hn, hh, hold, hnew⟩ := appendHandler_spec ha
  replace hid : h.id = s.next := congrArg H.id hid
  have hmem : ∀ {m x}, x ∈ s'.handlers m ↔ x ∈ s.handlers m ∨ x = h ∧ h.method = m := by
    intro m x; rw [hh]; split <;> simp [*]
  have hlt : ∀ {m x}, x ∈ s.handlers m → x.id ≠ h.id := fun hx => hid ▸ Nat.ne_of_lt (hi.fresh _ _ hx)
  constructor
  · intro m x hx
    rcases hmem.mp hx with hx | ⟨rfl, hm⟩
    · exact hi.meth m x hx
    · exact hm
  · intro m x hx
    rcases hmem.mp hx with hx | ⟨rfl, _⟩
    · exact hn ▸ Nat.lt_succ_of_lt (hi.fresh m x hx)
    · exact hid ▸ hn ▸ Nat.lt_succ_self _
  · intro m m' x x' hx hx' he
    rcases hmem.mp hx with hx | ⟨rfl, _⟩ <;> rcases hmem.mp hx' with hx' | ⟨rfl, _⟩
    · exact hi.uniq m m' x x' hx hx' he
    · exact absurd he (hlt hx)
    · exact absurd he.symm (hlt hx')
    · rfl
  · rw [hc]; exact hi.trackedOwner
  · intro c cl hcl x hx
    exact hmem.mpr (Or.inl (hi.trackedLive c cl (hc ▸ hcl) x hx))
  · intro m x c hx ho
    rw [hc, List.mem_append, List.mem_singleton]
    rcases hmem.mp hx with hx | ⟨rfl, _⟩
    · exact (hi.ownedTracked m x c hx ho).imp_right Or.inl
    · exact Or.inr (Or.inr rfl)
  · intro m x k hx hk
    rcases hmem.mp hx with hx | ⟨rfl, rfl⟩
    · exact hold k m (hi.routed m x k hx hk)
    · exact hnew k hk

theorem InvW.processAll {owner : Option Nat} {mss : List MSpec} {s s' : St} {hs pend : List H}
    (hi : InvW s pend) (hp : processAll s owner mss = some (s', hs)) : InvW s' (pend ++ hs) := by
  fun_induction Registry.processAll s owner mss generalizing hs pend with
  | case1 => cases hp; simpa using hi
  | case2 => cases hp
  | case3 => cases hp
  | case4 s ms rest s1 h ha s2 hs2 hp2 ih => cases hp; simpa using ih (hi.append ha) hp2

theorem InvW.close {s : St} {pend : List H} (hi : InvW s pend)
    (h : ∀ x ∈ pend, ∀ c, x.owner = some c → ∃ cl, s.conns c = some cl ∧ x ∈ cl.handlers) : Inv s :=
  { hi with ownedTracked := fun m x c hx ho =>
      (hi.ownedTracked m x c hx ho).elim Or.inl fun hp => Or.inl (h x hp c ho) }

theorem InvW.tracked {s : St} (hi : Inv s) {m c : Nat} {h : H} (hin : h ∈ s.handlers m) (ho : h.owner = some c) :
    ∃ cl, s.conns c = some cl ∧ h ∈ cl.handlers :=
  (hi.ownedTracked m h c hin ho).resolve_right List.not_mem_nil

theorem InvW.mem_tracked {s : St} (hi : Inv s) {c : Nat} {cl : Conn} (hc : s.conns c = some cl)
    {m : Nat} {h : H} (hin : h ∈ s.handlers m) : h ∈ cl.handlers ↔ h.owner = some c := by
  refine ⟨hi.trackedOwner c cl hc h, fun ho => ?_⟩
  obtain ⟨cl', hc', hin'⟩ := hi.tracked hin ho
  cases hc.symm.trans hc'; exact hin'

theorem no_owner_of_unregistered {s : St} (hi : Inv s) {c : Nat} (hc : s.conns c = none) (m : Nat) :
    (s.handlers m).filter (fun h => h.owner ≠ some c) = s.handlers m := by
  rw [List.filter_eq_self]
  intro a ha
  have : a.owner ≠ some c := fun ho => by
    obtain ⟨cl, hcl, _⟩ := hi.tracked ha ho
    rw [hc] at hcl; cases hcl
  simpa using this

theorem InvW.drop {s s' : St} (hi : Inv s) (c : Nat)
    (hh : ∀ m, s'.handlers m = (s.handlers m).filter (fun h => h.owner ≠ some c))
    (hc : s'.conns = put s.conns c none) (hn : s'.next = s.next)
    (hr : ∀ m k, s'.handlers m ≠ [] → routeOf s.routes k = some m → routeOf s'.routes k = some m) :
    Inv s' := by
  have hmem : ∀ {m x}, x ∈ s'.handlers m ↔ x ∈ s.handlers m ∧ x.owner ≠ some c := by
    intro m x; rw [hh, List.mem_filter]; simp
  have hcon : ∀ {c' cl}, s'.conns c' = some cl → c' ≠ c ∧ s.conns c' = some cl := by
    intro c' cl h
    rw [hc] at h
    by_cases he : c' = c
    · rw [he, put_same] at h; cases h
    · rw [put_other _ _ he] at h; exact ⟨he, h⟩
  constructor
  · exact fun m x hx => hi.meth m x (hmem.mp hx).1
  · exact fun m x hx => hn ▸ hi.fresh m x (hmem.mp hx).1
  · exact fun m m' x x' hx hx' => hi.uniq m m' x x' (hmem.mp hx).1 (hmem.mp hx').1
  · exact fun c' cl hcl => hi.trackedOwner c' cl (hcon hcl).2
  · intro c' cl hcl x hx
    obtain ⟨hne, hcl⟩ := hcon hcl
    refine hmem.mpr ⟨hi.trackedLive c' cl hcl x hx, ?_⟩
    rw [hi.trackedOwner c' cl hcl x hx]; simpa using hne
  · intro m x c' hx ho
    obtain ⟨hx, hne⟩ := hmem.mp hx
    rcases hi.ownedTracked m x c' hx ho with ⟨cl, hcl, hin⟩ | hp
    · refine Or.inl ⟨cl, ?_, hin⟩
      rw [hc, put_other _ _ fun he : c' = c => hne (he ▸ ho)]; exact hcl
    · cases hp
  · intro m x k hx hk
    exact hr m k (List.ne_nil_of_mem hx) (hi.routed m x k (hmem.mp hx).1 hk)

theorem removeHandler_spec (ch : Chooser) (s : St) (c : Nat) (hi : Inv s) :
    Inv (removeHandler ch s c).1 ∧
    ∀ m, (removeHandler ch s c).1.handlers m = (s.handlers m).filter (fun h => h.owner ≠ some c) := by
  cases hc : s.conns c with
  | none =>
    simp only [removeHandler, hc]
    exact ⟨hi, fun m => (no_owner_of_unregistered hi hc m).symm⟩
  | some cl =>
    obtain ⟨hh, hr⟩ := foldl_removeOne ch cl.handlers s hi.meth
    have hh' : ∀ m, (cl.handlers.foldl (removeOne ch) s).handlers m
        = (s.handlers m).filter (fun h => h.owner ≠ some c) := fun m => by
      rw [hh]
      exact List.filter_congr fun a ha => by simp [hi.mem_tracked hc ha]
    simp only [removeHandler, hc]
    exact ⟨hi.drop c hh' (by rw [foldl_removeOne_conns]) (foldl_removeOne_next ..) hr, hh'⟩

theorem removeHandler_conns (ch : Chooser) (s : St) (c c' : Nat) :
    (removeHandler ch s c).1.conns c' = if c' = c then none else s.conns c' := by
  unfold removeHandler
  split
  · rename_i hc; split
    · rename_i he; rw [he]; exact hc
    · rfl
  · simp only [foldl_removeOne_conns, put]

/-- one piece, because `removeHandler` changes nothing for a connection without entry. -/
theorem addConnHandler_eq (ch : Chooser) (s : St) (c hash : Nat) (mss : List MSpec) :
    addConnHandler ch s c hash mss =
      if (s.conns c).map (·.hash) = some hash then some s
      else (processAll (removeHandler ch s c).1 (some c) mss).map fun r =>
        { r.1 with conns := put r.1.conns c (some ⟨r.2, hash⟩) } := by
  unfold addConnHandler
  cases hc : s.conns c with
  | none => simp only [removeHandler, hc]; cases processAll s (some c) mss <;> simp
  | some cl =>
    simp only [Option.map_some, Option.some.injEq]
    cases processAll (removeHandler ch s c).1 (some c) mss <;> rfl

/-- `fresh` of `addConnHandler`: processFile, then the connection entry. -/
theorem fresh_spec {s0 s2 : St} {c : Nat} {mss : List MSpec} {hs : List H} (hash : Nat) (hi : Inv s0)
    (hc0 : s0.conns c = none) (hp : processAll s0 (some c) mss = some (s2, hs)) :
    Inv { s2 with conns := put s2.conns c (some ⟨hs, hash⟩) } := by
  obtain ⟨hc, ho, _, hh⟩ := processAll_spec hp
  have hi2 : InvW s2 hs := hi.processAll hp
  have hcon : ∀ {c' cl}, put s2.conns c (some ⟨hs, hash⟩) c' = some cl →
      c' = c ∧ cl = ⟨hs, hash⟩ ∨ s2.conns c' = some cl := by
    intro c' cl h
    by_cases he : c' = c
    · rw [he, put_same] at h; cases h; exact Or.inl ⟨he, rfl⟩
    · rw [put_other _ _ he] at h; exact Or.inr h
  exact { hi2 with
    trackedOwner := fun c' cl hcl x hx => by
      rcases hcon hcl with ⟨rfl, rfl⟩ | hcl
      · exact ho x hx
      · exact hi2.trackedOwner c' cl hcl x hx
    trackedLive := fun c' cl hcl x hx => by
      rcases hcon hcl with ⟨rfl, rfl⟩ | hcl
      · show x ∈ s2.handlers x.method
        rw [hh]; exact List.mem_append_right _ (List.mem_filter.mpr ⟨hx, by simp⟩)
      · exact hi2.trackedLive c' cl hcl x hx
    ownedTracked := fun m x c' hx hown => by
      refine Or.inl ?_
      rcases hi2.ownedTracked m x c' hx hown with ⟨cl, hcl, hin⟩ | hp'
      · refine ⟨cl, ?_, hin⟩
        show put s2.conns c _ c' = _
        rw [put_other _ _ fun he => by rw [he, hc, hc0] at hcl; cases hcl]; exact hcl
      · cases (ho x hp').symm.trans hown
        exact ⟨⟨hs, hash⟩, put_same .., hp'⟩ }

theorem addConnHandler_spec {ch : Chooser} {s s' : St} {c hash : Nat} {mss : List MSpec} (hi : Inv s)
    (ha : addConnHandler ch s c hash mss = some s') :
    Inv s' ∧
    ((∃ cl, s.conns c = some cl ∧ cl.hash = hash ∧ s' = s) ∨
     (∃ hs, s'.conns c = some ⟨hs, hash⟩ ∧ (∀ h ∈ hs, h.owner = some c) ∧
        hs.map (·.method) = mss.map (·.method) ∧
        ∀ m, s'.handlers m = (s.handlers m).filter (fun h => h.owner ≠ some c)
                              ++ hs.filter (fun h => h.method = m))) := by
  rw [addConnHandler_eq] at ha
  split at ha
  · rename_i heq
    cases ha
    obtain ⟨cl, hcl, hh⟩ := Option.map_eq_some_iff.mp heq
    exact ⟨hi, Or.inl ⟨cl, hcl, hh, rfl⟩⟩
  · obtain ⟨⟨s2, hs⟩, hp, rfl⟩ := Option.map_eq_some_iff.mp ha
    obtain ⟨hi0, hh0⟩ := removeHandler_spec ch s c hi
    obtain ⟨_, ho, hmap, hh⟩ := processAll_spec hp
    have hc0 : (removeHandler ch s c).1.conns c = none := by rw [removeHandler_conns, if_pos rfl]
    exact ⟨fresh_spec hash hi0 hc0 hp, Or.inr ⟨hs, put_same .., ho, hmap, fun m => hh0 m ▸ hh m⟩⟩

/-- whatever `removeHandler` answers: for a connection without entry its state is `s` itself. -/
theorem step_dropConn (ch : Chooser) (s : St) (c : Nat) : (step ch s (.dropConn c)).1 = (removeHandler ch s c).1 := by
  cases hc : s.conns c <;> simp [step, removeHandler, hc]

theorem step_conns_none (ch : Chooser) (s : St) (op : Op) (c : Nat) (hc : s.conns c = none)
    (hop : ∀ hash mss, op ≠ .regConn c hash mss) : (step ch s op).1.conns c = none := by
  cases op with
  | regService mss =>
    simp only [step]
    split
    · exact hc
    · rename_i hp; rw [(processAll_spec hp).1]; exact hc
  | regConn c' hash mss =>
    have hne : c ≠ c' := fun he => hop hash mss (he ▸ rfl)
    simp only [step]
    split
    · exact hc
    · rename_i s' ha
      rw [addConnHandler_eq] at ha
      split at ha
      · cases ha; exact hc
      · obtain ⟨⟨s2, hs⟩, hp, rfl⟩ := Option.map_eq_some_iff.mp ha
        show put s2.conns c' _ c = none
        rw [put_other _ _ hne, (processAll_spec hp).1, removeHandler_conns, if_neg hne]; exact hc
  | dropConn c' => rw [step_dropConn, removeHandler_conns]; split <;> trivial

theorem dropConn_conns (ch : Chooser) (s : St) (c : Nat) : (step ch s (.dropConn c)).1.conns c = none := by
  rw [step_dropConn, removeHandler_conns, if_pos rfl]

theorem step_inv (ch : Chooser) (s : St) (op : Op) (hi : Inv s) : Inv (step ch s op).1 := by
  cases op with
  | regService mss =>
    simp only [step]
    split
    · exact hi
    · rename_i s' hs hp
      exact (hi.processAll hp).close fun x hx c ho => by
        rw [(processAll_spec hp).2.1 x hx] at ho; cases ho
  | regConn c hash mss =>
    simp only [step]
    split
    · exact hi
    · rename_i s' ha; exact (addConnHandler_spec hi ha).1
  | dropConn c => rw [step_dropConn]; exact (removeHandler_spec ch s c hi).1

theorem run_inv (ch : Chooser) (ops : List Op) (s : St) (hi : Inv s) : Inv (run ch s ops) :=
  List.foldlRecOn ops _ hi fun s hs op _ => step_inv ch s op hs

end Larking.Registry
