import Larking.Lemmas.VarIndexComplete
/-
  Literal templates — every method's implicit `/pkg.Service/Method` route is one — read as templates and as the
  request paths that spell them, for C02 `literal_route_dispatches`.
-/
namespace Larking.Trie
open Larking.Lexer

/-- `"/" LITERAL { "/" LITERAL } [ ":" LITERAL ]` -/
structure LitTmpl where
  slash : Rune
  first : List Rune
  more : List (Rune × List Rune)
  verb : Option (Rune × List Rune)

def LitTmpl.toTmpl (l : LitTmpl) : Tmpl :=
  { slash := l.slash, first := .simple (.lit l.first),
    more := l.more.map fun p => (p.1, .simple (.lit p.2)), verb := l.verb }

/-- the same runes read as a request path: separators and segments. -/
def LitTmpl.segs (l : LitTmpl) : PathSegs :=
  (l.slash, l.first) :: (l.more ++ l.verb.toList)

/-- '/' and ':' are spelled in ASCII (what UTF-8 does; the model's runes carry their bytes). -/
def LitTmpl.Ascii (l : LitTmpl) : Prop :=
  l.slash.bytes = slashB ∧ (∀ p ∈ l.more, p.1.bytes = slashB) ∧ ∀ p, l.verb = some p → p.1.bytes = colonB

theorem LitTmpl.render_eq (l : LitTmpl) : l.toTmpl.render = renderPath l.segs := by
  obtain ⟨slash, first, more, verb⟩ := l
  simp only [LitTmpl.toTmpl, Tmpl.render, renderSegs, Seg.render, Simple.render, LitTmpl.segs, renderPath,
    List.flatMap_cons, List.flatMap_append, List.cons_append, List.flatMap_map]
  congr 1
  rw [List.append_assoc]
  congr 1
  cases verb <;> simp [Tmpl.verbRender]

/-- an edge is keyed by "/" or ":" and the segment's text; with the separators spelled in ASCII that is the
text of the path segment. -/
theorem LitTmpl.edges_eq (l : LitTmpl) (ha : l.Ascii) :
    l.toTmpl.edges = l.segs.map fun p => Edge.seg (p.1.bytes ++ runesBytes p.2) := by
  obtain ⟨slash, first, more, verb⟩ := l
  obtain ⟨ha1, ha2, ha3⟩ := ha
  have hmore : (more.map fun p => (p.1, Seg.simple (.lit p.2))).map (fun p => p.2.edge) =
      more.map fun p => Edge.seg (p.1.bytes ++ runesBytes p.2) := by
    rw [List.map_map]
    exact List.map_congr_left fun p hp => by rw [Function.comp_apply, Seg.edge, ha2 p hp]
  have hverb : Tmpl.verbEdges ⟨slash, .simple (.lit first), more.map fun p => (p.1, .simple (.lit p.2)), verb⟩ =
      verb.toList.map fun p => Edge.seg (p.1.bytes ++ runesBytes p.2) := by
    cases verb with
    | none => rfl
    | some q => rw [Tmpl.verbEdges, Option.toList, List.map_singleton, ha3 q rfl]
  rw [LitTmpl.toTmpl, Tmpl.edges, segsEdges, hmore, hverb, Seg.edge, LitTmpl.segs, List.map_cons, List.map_append, ha1,
    List.cons_append]

/-- the tokens of a request path instantiate the literal edges that spell it, whatever its separators are:
`EdgeInst.seg` reads the text of the two tokens, not their types. -/
theorem edgeInst_pathToks : ∀ (ps : PathSegs),
    EdgeInst (ps.map fun p => Edge.seg (p.1.bytes ++ runesBytes p.2)) (pathToks ps ++ [⟨.eof, []⟩]) := by
  intro ps
  induction ps with
  | nil => exact .nil _ (Nat.le_refl 1)
  | cons p ps ih => exact .seg ⟨_, p.1.bytes⟩ ⟨.path, runesBytes p.2⟩ _ _ ih

theorem LitTmpl.edgeInst (l : LitTmpl) (ha : l.Ascii) :
    EdgeInst l.toTmpl.edges (pathToks l.segs ++ [⟨.eof, []⟩]) :=
  l.edges_eq ha ▸ edgeInst_pathToks l.segs

theorem LitTmpl.resolves (l : LitTmpl) (resolve : List Bytes → Option Nat) : l.toTmpl.Resolves resolve := by
  refine ⟨trivial, fun p hp => ?_⟩
  obtain ⟨q, _, rfl⟩ := List.mem_map.mp hp
  trivial

end Larking.Trie
