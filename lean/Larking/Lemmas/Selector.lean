import Larking.Model.Selector
namespace Larking.Selector

/-- well-formed selector (suffix): non-empty components, `*` only as the very last one. -/
def okSel : List String → Bool
  | [] => true
  | [c] => c != ""
  | c :: rest => c != "" && c != "*" && okSel rest

/-- well-formed element name (suffix): non-empty components, none of them `*`. -/
def okName : List String → Bool
  | [] => true
  | c :: rest => c != "" && c != "*" && okName rest

/-- the documented meaning of a selector: the element's qualified name, or a pattern ending
in `*` that stands for one or more components. -/
def selects (sel name : List String) : Prop :=
  sel = name ∨ ∃ p more, sel = p ++ ["*"] ∧ more ≠ [] ∧ name = p ++ more

theorem lookup_upsert_same (cs : List (String × Sel)) (k : String) (v : Sel) :
    lookup (upsert cs k v) k = some v := by
  fun_induction upsert cs k v <;> simp [lookup, *]

theorem lookup_upsert_other (cs : List (String × Sel)) {k k2 : String} (v : Sel) (hne : k ≠ k2) :
    lookup (upsert cs k v) k2 = lookup cs k2 := by
  fun_induction upsert cs k v <;> simp_all [lookup]

theorem empty_get (n : List String) : Sel.empty.get n = [] := by
  cases n with
  | nil => rfl
  | cons t r => simp [Sel.empty, Sel.get, lookup]

theorem selects_nil_nil : selects [] [] := Or.inl rfl

theorem selects_nil_cons (t : String) (r : List String) : ¬ selects [] (t :: r) := by
  rintro (h | ⟨p, more, h, _, _⟩)
  · cases h
  · cases p <;> cases h

theorem selects_star (n : List String) : selects ["*"] n ↔ n ≠ [] := by
  constructor
  · intro h hn
    subst hn
    rcases h with h | ⟨p, more, h1, h2, h3⟩
    · cases h
    · cases p with
      | nil => exact h2 h3.symm
      | cons a p => cases h3
  · intro hn
    exact Or.inr ⟨[], n, rfl, hn, rfl⟩

theorem selects_cons_nil (c : String) (s : List String) (hc : c ≠ "*") : ¬ selects (c :: s) [] := by
  intro h
  rcases h with h | ⟨p, more, h1, h2, h3⟩
  · cases h
  · cases p with
    | nil => cases h1; exact hc rfl
    | cons a p => cases h3

theorem selects_cons_cons (c t : String) (s r : List String) (hc : c ≠ "*") :
    selects (c :: s) (t :: r) ↔ c = t ∧ selects s r := by
  constructor
  · intro h
    rcases h with h | ⟨p, more, h1, h2, h3⟩
    · cases h; exact ⟨rfl, Or.inl rfl⟩
    · cases p with
      | nil => cases h1; exact absurd rfl hc
      | cons a p =>
        obtain ⟨rfl, hs⟩ := List.cons.inj h1
        obtain ⟨rfl, hr⟩ := List.cons.inj h3
        exact ⟨rfl, Or.inr ⟨p, more, hs, h2, hr⟩⟩
  · rintro ⟨rfl, h | ⟨p, more, rfl, h2, rfl⟩⟩
    · subst h; exact Or.inl rfl
    · exact Or.inr ⟨c :: p, more, rfl, h2, rfl⟩

theorem selects_exact {s name : List String} (hs : ∀ c ∈ s, c ≠ "*") : selects s name ↔ name = s := by
  constructor
  · rintro (h | ⟨p, more, rfl, _, _⟩)
    · exact h.symm
    · exact absurd rfl (hs "*" (by simp))
  · rintro rfl; exact Or.inl rfl

/-- an absent child answers like the empty node, which is also what `insert` starts from: `get` and
`insert` speak of the same child `(lookup cs tag).getD .empty`. -/
theorem get_cons {cs : List (String × Sel)} {w x : List Nat} {tag : String} {rest : List String}
    (ht : tag ≠ "") :
    (Sel.mk cs w x).get (tag :: rest) = w ++ ((lookup cs tag).getD .empty).get rest := by
  rw [Sel.get, beq_false_of_ne ht, Bool.false_and, if_neg Bool.false_ne_true]
  cases lookup cs tag <;> simp [empty_get]

theorem okName_cons {tag : String} {rest : List String} (h : okName (tag :: rest) = true) :
    tag ≠ "" ∧ okName rest = true := by
  simp [okName] at h; exact ⟨h.1.1, h.2⟩

theorem okSel_cons {c : String} {srest : List String} (h : okSel (c :: srest) = true) :
    c ≠ "" ∧ okSel srest = true := by
  cases srest with
  | nil => exact ⟨bne_iff_ne.mp h, rfl⟩
  | cons a b => simp [okSel] at h; exact ⟨h.1.1, h.2⟩

theorem insert_spec : ∀ (sel : List String) (t : Sel) (i : Nat), okSel sel = true →
    ∃ t', t.insert sel i = .ok t' ∧
      ∀ name, okName name = true → ∀ j, j ∈ t'.get name ↔ (j ∈ t.get name ∨ (j = i ∧ selects sel name)) := by
  intro sel
  induction sel with
  | nil =>
    rintro ⟨cs, w, x⟩ i _
    refine ⟨_, rfl, fun name hn j => ?_⟩
    cases name with
    | nil => simp [Sel.get, selects_nil_nil]
    | cons tag rest =>
      rw [get_cons (okName_cons hn).1, get_cons (okName_cons hn).1]
      simp [selects_nil_cons]
  | cons c srest ih =>
    rintro ⟨cs, w, x⟩ i hok
    by_cases hstar : c = "*"
    · -- the selector is exactly ["*"]: the rule joins the node's wildcard rules
      subst hstar
      have hrest : srest = [] := by
        cases srest with
        | nil => rfl
        | cons a b => simp [okSel] at hok
      subst hrest
      refine ⟨.mk cs (w ++ [i]) x, rfl, fun name hn j => ?_⟩
      cases name with
      | nil => simp [Sel.get, selects_star]
      | cons tag rest =>
        rw [get_cons (okName_cons hn).1, get_cons (okName_cons hn).1]
        simp only [List.mem_append, List.mem_singleton, selects_star, ne_eq, reduceCtorEq,
          not_false_eq_true, and_true]
        exact or_right_comm
    · -- otherwise the rule goes into the child under `c`, and only names through `c` see it
      obtain ⟨hcne, hoks⟩ := okSel_cons hok
      obtain ⟨c', hc', hget⟩ := ih ((lookup cs c).getD .empty) i hoks
      have h1 : (c == "*") = false := beq_false_of_ne hstar
      have h2 : (c == "") = false := beq_false_of_ne hcne
      refine ⟨.mk (upsert cs c c') w x, by simp [Sel.insert, h1, h2, hc'], fun name hn j => ?_⟩
      cases name with
      | nil => simp [Sel.get, selects_cons_nil c srest hstar]
      | cons tag rest =>
        obtain ⟨ht, hnr⟩ := okName_cons hn
        rw [get_cons ht, get_cons ht, selects_cons_cons c tag srest rest hstar]
        by_cases hct : c = tag
        · subst hct
          simp only [lookup_upsert_same, Option.getD_some, List.mem_append, hget rest hnr j, true_and]
          exact or_assoc.symm
        · simp [lookup_upsert_other cs c' hct, hct]

theorem build_spec (sels : List (List String)) (i0 : Nat) (t : Sel) (hall : ∀ s ∈ sels, okSel s = true) :
    ∃ t', build sels i0 t = .ok t' ∧
      ∀ name, okName name = true → ∀ j, j ∈ t'.get name ↔
        (j ∈ t.get name ∨ ∃ sel, (sel, j) ∈ sels.zipIdx i0 ∧ selects sel name) := by
  induction sels generalizing i0 t with
  | nil => exact ⟨t, rfl, by simp⟩
  | cons s rest ih =>
    obtain ⟨t1, h1, hg1⟩ := insert_spec s t i0 (hall s List.mem_cons_self)
    obtain ⟨t2, h2, hg2⟩ := ih (i0 + 1) t1 fun x hx => hall x (List.mem_cons_of_mem _ hx)
    refine ⟨t2, by simp [build, h1, h2], fun name hn j => ?_⟩
    rw [hg2 name hn j, hg1 name hn j]
    simp [List.zipIdx_cons, or_and_right, exists_or, or_assoc, and_assoc]

end Larking.Selector
