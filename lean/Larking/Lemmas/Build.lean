import Larking.Lemmas.Search
import Larking.Lemmas.Register
namespace Larking.Trie
open Larking.Lexer

/-- the variable edges of a way: a node `k` variable edges below the root holds methods with `k` field entries (`WF k`). -/
def varCount (es : List Edge) : Nat := (es.filter (· matches .var _)).length

def edgeOk : Edge → Prop
  | .var v => ∀ t ∈ v.toks, okPatTok t = true
  | .seg _ => True

theorem varCount_cons (e : Edge) (es : List Edge) : varCount (e :: es) = varCount [e] + varCount es := by
  cases e with
  | seg _ => exact (Nat.zero_add _).symm
  | var _ => exact Nat.add_comm _ 1

theorem patToks_ok {toks pat rest : List Tok} (h : patToks toks = some (pat, rest)) :
    ∀ t ∈ pat, okPatTok t = true := by
  fun_induction patToks toks generalizing pat with
  | case1 | case4 => cases h
  | case2 => cases h; exact fun _ h => nomatch h
  | case3 t ts _ hok ih =>
    obtain ⟨⟨p1, p2⟩, hp, heq⟩ := Option.map_eq_some_iff.mp h
    cases heq
    exact List.forall_mem_cons.mpr ⟨hok, ih hp⟩

theorem varPat_ok {toks pat rest : List Tok} (h : varPat toks = .ok (pat, rest)) : ∀ t ∈ pat, okPatTok t = true := by
  revert h
  fun_cases varPat toks with
  | case1 | case2 | case5 => nofun
  | case3 _ _ _ _ hpat =>
    -- `"=" Segments "}"`: the pattern is what `patToks` copied
    rintro ⟨⟩; exact patToks_ok hpat
  | case4 =>
    -- `"}"`: the pattern is `*`
    rintro ⟨⟩; exact List.forall_mem_singleton.mpr rfl

theorem segStep_ok {resolve} {toks rest : List Tok} {e : Edge} {fd : List (Option Nat)}
    (h : segStep resolve toks = .ok (e, fd, rest)) : fd.length = varCount [e] ∧ edgeOk e := by
  revert h
  fun_cases segStep resolve toks with
  | case1 | case4 | case6 | case7 | case8 => nofun
  | case2 v _ hstar =>
    -- `*` or `**`: the token is the variable's pattern
    rintro ⟨⟩
    refine ⟨rfl, List.forall_mem_singleton.mpr ?_⟩
    simp only [Bool.or_eq_true, beq_iff_eq] at hstar
    rcases hstar with h | h <;> simp [okPatTok, h]
  | case3 =>
    -- a literal
    rintro ⟨⟩; exact ⟨rfl, trivial⟩
  | case5 _ _ _ _ _ _ _ hpat =>
    -- `"{"`: a variable, when `varPat` reads its pattern and its field path resolves
    rintro ⟨⟩; exact ⟨rfl, varPat_ok hpat⟩

theorem parseToks_ok {resolve} {fuel : Nat} {toks : List Tok} {p : Parsed} (h : parseToks resolve fuel toks = .ok p) :
    p.varfds.length = varCount p.edges ∧ ∀ e ∈ p.edges, edgeOk e := by
  induction fuel generalizing toks p with
  | zero => cases h
  | succ fuel ih =>
    obtain _ | ⟨t, rest⟩ := toks
    · cases h
    rw [parseToks_succ] at h
    by_cases heof : t.typ == .eof
    · -- EOF
      rw [if_pos heof] at h
      cases h; exact ⟨rfl, fun _ h => nomatch h⟩
    rw [if_neg heof] at h
    by_cases hv : t.typ == .verb
    · -- the verb
      rw [if_pos hv] at h
      split at h <;> cases h
      exact ⟨rfl, List.forall_mem_singleton.mpr trivial⟩
    rw [if_neg hv] at h
    split at h
    · -- `"/" Segment`, then the rest of the loop
      split at h
      · obtain ⟨hfd, he⟩ := segStep_ok ‹_›
        split at h <;> cases h
        obtain ⟨h1, h2⟩ := ih ‹_›
        exact ⟨by rw [varCount_cons, ← h1, List.length_append, hfd], List.forall_mem_cons.mpr ⟨he, h2⟩⟩
      · cases h
      · cases h
    · cases h

theorem WF_child {k : Nat} {n : Node} (hwf : WF k n) (e : Edge) : WF (k + varCount [e]) (child n e) := by
  obtain h | h := child_cases n e
  · rw [h]; exact WF_empty _
  · obtain ⟨segs, methods, all, vars⟩ := n
    cases e with
    | seg key => exact lookupSeg_WF hwf.2.2.1 h
    | var v => obtain ⟨v', hm, _⟩ := h; exact (WFVars_iff.mp hwf.2.2.2 _ hm).2

theorem WF_setChild {k : Nat} {n c : Node} {e : Edge} (hwf : WF k n) (he : edgeOk e)
    (hc : WF (k + varCount [e]) c) : WF k (setChild n e c) := by
  obtain ⟨segs, methods, all, vars⟩ := n
  cases e with
  | seg key =>
    refine ⟨hwf.1, hwf.2.1, WFSegs_iff.mpr fun p hp => ?_, hwf.2.2.2⟩
    obtain hp | rfl := mem_upsertKV hp
    · exact WFSegs_iff.mp hwf.2.2.1 p hp
    · exact hc
  | var v =>
    refine ⟨hwf.1, hwf.2.1, hwf.2.2.1, WFVars_iff.mpr fun p hp => ?_⟩
    have old := WFVars_iff.mp hwf.2.2.2
    obtain hp | ⟨rfl, _, rfl | ⟨c0, h0⟩⟩ := mem_upsertVar hp
    · exact old p hp
    · exact ⟨he, hc⟩
    · exact ⟨(old _ h0).1, hc⟩

theorem register_WF {k : Nat} {n n' : Node} {verb : Bytes} {mid : Nat} {mk : Unit → Outcome Meth}
    (hwf : WF k n) (hmk : ∀ m, mk () = .ok m → m.vars.length = k)
    (h : register n verb mid mk = .ok n') : WF k n' := by
  obtain ⟨segs, ms, al, vars⟩ := n
  obtain ⟨m, hm, rfl | ⟨_, rfl⟩ | ⟨_, rfl⟩⟩ := register_ok_cases h
  · exact hwf
  · exact ⟨hwf.1, fun m' hm' => Option.some.inj hm' ▸ hmk m hm, hwf.2.2⟩
  · exact ⟨fun q hq => (mem_upsertKV hq).elim (hwf.1 q) fun e => e ▸ hmk m hm, hwf.2.1, hwf.2.2⟩

theorem insertAt_WF {f : Node → Outcome Node} {es : List Edge} (hes : ∀ e ∈ es, edgeOk e) :
    ∀ {k : Nat} {n n' : Node}, WF k n →
    (∀ node node', WF (k + varCount es) node → f node = .ok node' → WF (k + varCount es) node') →
    insertAt n es f = .ok n' → WF k n' := by
  induction es with
  | nil => exact fun hwf hf h => hf _ _ hwf h
  | cons e es ih =>
    intro k n n' hwf hf h
    obtain ⟨c, hc, rfl⟩ := insertAt_cons_ok.mp h
    rw [varCount_cons, ← Nat.add_assoc] at hf
    exact WF_setChild hwf (hes e (.head _)) (ih (fun x hx => hes x (.tail _ hx)) (WF_child hwf e) hf hc)

theorem addBinding_WF {cap : Nat} {resolve} {n n' : Node} {b : Binding} {mid : Nat}
    (hwf : WF 0 n) (h : addBinding cap resolve n b mid = .ok n') : WF 0 n' := by
  obtain ⟨toks, p, hl, hp⟩ := addBinding_parsed h
  rw [addBinding_eq hl hp] at h
  obtain ⟨hlen, hedges⟩ := parseToks_ok hp
  exact insertAt_WF hedges hwf (fun node node' hnode hreg =>
    register_WF hnode (fun m hm => by rw [methOf_ok hm, Nat.zero_add]; exact hlen) hreg) h

/-! `buildAll rs` succeeds exactly when no additional binding is nested and `addAll (stepsOf rs)`
succeeds, with the same trie; so whatever holds across every accepted `addBinding` and is reflexive
and transitive holds across `addAdditional`, `addRule` and `buildAll` (`addAll_fold`). -/

/-- all bindings of a rule (primary first). -/
def Rule.bindings (r : Rule) : List Binding := r.primary :: r.additional.map (·.1)

/-- registering a list of (rule, method, field resolver) in order; stops at the first error. -/
def buildAll (cap : Nat) : List (Rule × Nat × (List Bytes → Option Nat)) → Node → Outcome Node
  | [], n => .ok n
  | (r, mid, resolve) :: rest, n =>
    match addRule cap resolve n r mid with
    | .ok n' => buildAll cap rest n'
    | .err k => .err k
    | .panic s => .panic s

/-- one `addBinding` call of a registration: the binding, its method, its field resolver. -/
structure Step where
  b : Binding
  mid : Nat
  resolve : List Bytes → Option Nat

def addAll (cap : Nat) : List Step → Node → Outcome Node
  | [], t => .ok t
  | s :: rest, t =>
    match addBinding cap s.resolve t s.b s.mid with
    | .ok t' => addAll cap rest t'
    | .err e => .err e
    | .panic p => .panic p

def ruleSteps (e : Rule × Nat × (List Bytes → Option Nat)) : List Step :=
  e.1.bindings.map fun b => ⟨b, e.2.1, e.2.2⟩

def stepsOf (rs : List (Rule × Nat × (List Bytes → Option Nat))) : List Step := rs.flatMap ruleSteps

theorem addAll_cons_ok {cap : Nat} {s : Step} {l : List Step} {t r : Node} :
    addAll cap (s :: l) t = .ok r ↔ ∃ t', addBinding cap s.resolve t s.b s.mid = .ok t' ∧ addAll cap l t' = .ok r := by
  rw [addAll]; cases addBinding cap s.resolve t s.b s.mid <;> simp

theorem addAll_append_ok {cap : Nat} {r : Node} {l1 l2 : List Step} {t : Node} :
    addAll cap (l1 ++ l2) t = .ok r ↔ ∃ t', addAll cap l1 t = .ok t' ∧ addAll cap l2 t' = .ok r := by
  induction l1 generalizing t with
  | nil => simp [addAll]
  | cons s l1 ih =>
    simp only [List.cons_append, addAll_cons_ok, ih]
    constructor
    · rintro ⟨a, h1, b, h2, h3⟩; exact ⟨b, ⟨a, h1, h2⟩, h3⟩
    · rintro ⟨b, ⟨a, h1, h2⟩, h3⟩; exact ⟨a, h1, b, h2, h3⟩

theorem addAdditional_ok_iff (cap : Nat) (resolve : List Bytes → Option Nat) (mid : Nat) {r : Node}
    (adds : List (Binding × Bool)) (t : Node) : addAdditional cap resolve mid t adds = .ok r ↔
      (∀ p ∈ adds, p.2 = false) ∧ addAll cap (adds.map fun p => ⟨p.1, mid, resolve⟩) t = .ok r := by
  induction adds generalizing t with
  | nil => simp [addAdditional, addAll]
  | cons p more ih =>
    obtain ⟨b, nested⟩ := p
    have : addAdditional cap resolve mid t ((b, nested) :: more) =
        if nested then .err "nested-rules" else (addBinding cap resolve t b mid).bind (addAdditional cap resolve mid · more) := by
      rw [addAdditional]; cases addBinding cap resolve t b mid <;> rfl
    cases nested with
    | true => simp only [this, ↓reduceIte, reduceCtorEq, List.forall_mem_cons, Bool.true_eq_false, false_and]
    | false =>
      simp only [this, Bool.false_eq_true, if_false, Outcome.bind_eq_ok, ih, List.map_cons, addAll_cons_ok,
        List.forall_mem_cons, true_and]
      constructor
      · rintro ⟨a, h1, h2, h3⟩; exact ⟨h2, a, h1, h3⟩
      · rintro ⟨h2, a, h1, h3⟩; exact ⟨a, h1, h2, h3⟩

theorem addRule_ok_iff (cap : Nat) (e : Rule × Nat × (List Bytes → Option Nat)) (t r : Node) :
    addRule cap e.2.2 t e.1 e.2.1 = .ok r ↔
      (∀ p ∈ e.1.additional, p.2 = false) ∧ addAll cap (ruleSteps e) t = .ok r := by
  have : addRule cap e.2.2 t e.1 e.2.1 =
      (addBinding cap e.2.2 t e.1.primary e.2.1).bind (addAdditional cap e.2.2 e.2.1 · e.1.additional) := by
    rw [addRule]; cases addBinding cap e.2.2 t e.1.primary e.2.1 <;> rfl
  simp only [this, Outcome.bind_eq_ok, addAdditional_ok_iff, ruleSteps, Rule.bindings, List.map_cons, addAll_cons_ok,
    List.map_map]
  constructor
  · rintro ⟨a, h1, h2, h3⟩; exact ⟨h2, a, h1, h3⟩
  · rintro ⟨h2, a, h1, h3⟩; exact ⟨a, h1, h2, h3⟩

theorem buildAll_ok_iff (cap : Nat) {r : Node} (rs : List (Rule × Nat × (List Bytes → Option Nat))) (t : Node) :
    buildAll cap rs t = .ok r ↔
      (∀ e ∈ rs, ∀ p ∈ e.1.additional, p.2 = false) ∧ addAll cap (stepsOf rs) t = .ok r := by
  induction rs generalizing t with
  | nil => exact (and_iff_right fun _ h => nomatch h).symm
  | cons e rest ih =>
    have : buildAll cap (e :: rest) t = (addRule cap e.2.2 t e.1 e.2.1).bind (buildAll cap rest) := by
      rw [buildAll]; cases addRule cap e.2.2 t e.1 e.2.1 <;> rfl
    simp only [this, Outcome.bind_eq_ok, addRule_ok_iff, ih, stepsOf, List.flatMap_cons,
      addAll_append_ok, List.forall_mem_cons]
    constructor
    · rintro ⟨a, ⟨h1, h2⟩, h3, h4⟩; exact ⟨⟨h1, h3⟩, a, h2, h4⟩
    · rintro ⟨⟨h1, h3⟩, a, h2, h4⟩; exact ⟨a, ⟨h1, h2⟩, h3, h4⟩

theorem mem_stepsOf {rs : List (Rule × Nat × (List Bytes → Option Nat))} {s : Step} :
    s ∈ stepsOf rs ↔ ∃ e ∈ rs, ∃ b ∈ e.1.bindings, s = ⟨b, e.2.1, e.2.2⟩ := by
  simp only [stepsOf, ruleSteps, List.mem_flatMap, List.mem_map, eq_comm]

theorem addAll_fold (cap : Nat) (R : Node → Node → Prop) (hrefl : ∀ n, R n n)
    (htrans : ∀ {a b c}, R a b → R b c → R a c) (l : List Step)
    (hs : ∀ s ∈ l, ∀ n n', addBinding cap s.resolve n s.b s.mid = .ok n' → R n n')
    (n n' : Node) (h : addAll cap l n = .ok n') : R n n' := by
  induction l generalizing n with
  | nil => cases h; exact hrefl _
  | cons s l ih =>
    obtain ⟨a, h1, h2⟩ := addAll_cons_ok.mp h
    exact htrans (hs s (.head _) n a h1) (ih (fun s' m => hs s' (.tail _ m)) a h2)

theorem addAll_WF {cap : Nat} {l : List Step} {n n' : Node} (hwf : WF 0 n) (h : addAll cap l n = .ok n') :
    WF 0 n' :=
  addAll_fold cap (fun a b => WF 0 a → WF 0 b) (fun _ h => h) (fun f g h => g (f h)) l
    (fun _ _ _ _ h hwf => addBinding_WF hwf h) n n' h hwf

theorem addRule_WF {cap : Nat} {resolve} {n n' : Node} {r : Rule} {mid : Nat}
    (hwf : WF 0 n) (h : addRule cap resolve n r mid = .ok n') : WF 0 n' :=
  addAll_WF hwf ((addRule_ok_iff cap (r, mid, resolve) n n').mp h).2

theorem buildAll_WF {cap : Nat} {rs : List (Rule × Nat × (List Bytes → Option Nat))} {n n' : Node}
    (hwf : WF 0 n) (h : buildAll cap rs n = .ok n') : WF 0 n' :=
  addAll_WF hwf ((buildAll_ok_iff cap rs n).mp h).2

end Larking.Trie
