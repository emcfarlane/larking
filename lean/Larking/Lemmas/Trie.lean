import Larking.Model.Trie
import Larking.Lemmas.Upsert
namespace Larking.Trie
open Larking.Lexer

theorem _root_.Larking.Outcome.bind_eq_ok {α β} {o : Outcome α} {f : α → Outcome β} {b : β} :
    o.bind f = .ok b ↔ ∃ a, o = .ok a ∧ f a = .ok b := by
  cases o <;> simp [Outcome.bind]

theorem Node.induct {P : Node → Prop}
    (mk : ∀ segs methods all vars, (∀ p ∈ segs, P p.2) → (∀ p ∈ vars, P p.2) →
      P (.mk segs methods all vars)) : ∀ n, P n :=
  @Node.rec P (fun l => ∀ p ∈ l, P p.2) (fun l => ∀ p ∈ l, P p.2) (fun p => P p.2) (fun p => P p.2)
    mk (fun _ h => nomatch h)
    (fun _ _ hh ht p hp => (List.mem_cons.mp hp).elim (· ▸ hh) (ht p))
    (fun _ h => nomatch h)
    (fun _ _ hh ht p hp => (List.mem_cons.mp hp).elim (· ▸ hh) (ht p))
    (fun _ _ h => h) (fun _ _ h => h)

/-- declarative meaning of a variable's sub-pattern over the request tokens it consumes. -/
inductive PatMatch : List Tok → List Tok → Prop
  | nil : PatMatch [] []
  | slash (p t : Tok) (ps ts : List Tok) : p.typ = .slash → t.typ = .slash → PatMatch ps ts →
      PatMatch (p :: ps) (t :: ts)
  | literal (p t : Tok) (ps ts : List Tok) : p.typ = .literal → t.typ = .path → p.val = t.val →
      PatMatch ps ts → PatMatch (p :: ps) (t :: ts)
  | star (p : Tok) (ps run ts : List Tok) : p.typ = .star → (∀ x ∈ run, isSep x = false) →
      PatMatch ps ts → PatMatch (p :: ps) (run ++ ts)
  | starstar (p : Tok) (ps run ts : List Tok) : p.typ = .starstar → (∀ x ∈ run, x.typ ≠ .verb) →
      PatMatch ps ts → PatMatch (p :: ps) (run ++ ts)

theorem varIndex_sound (pat rem : List Tok) (i k : Nat) (h : varIndex pat rem i = .ok (some k)) :
    ∃ j, k = i + j ∧ j ≤ rem.length ∧ PatMatch pat (rem.take j) := by
  -- `*` and `**` consume the run `takeWhile f` and go on behind it
  have run {p : Tok} {ps l : List Tok} {i : Nat} (f : Tok → Bool)
      (ih : ∃ j, k = i + (l.takeWhile f).length + j ∧ j ≤ (l.drop (l.takeWhile f).length).length ∧
        PatMatch ps ((l.drop (l.takeWhile f).length).take j))
      (mk : ∀ c, PatMatch ps c → PatMatch (p :: ps) (l.takeWhile f ++ c)) :
      ∃ j, k = i + j ∧ j ≤ l.length ∧ PatMatch (p :: ps) (l.take j) := by
    obtain ⟨j, rfl, hj, hm⟩ := ih
    rw [List.length_drop] at hj
    refine ⟨_ + j, Nat.add_assoc .., Nat.add_le_of_le_sub' (List.takeWhile_sublist f).length_le hj, ?_⟩
    rw [List.take_add, ← List.prefix_iff_eq_take.mp (List.takeWhile_prefix f)]
    exact mk _ hm
  -- the branches of `varIndex` in its order: 1 the pattern is used up, 2 the request is, 3 / 4 `/`,
  -- 5 `*`, 6 `**`, 7 / 8 a literal, 9 any other token
  fun_induction varIndex pat rem i with
  | case1 => cases h; exact ⟨0, rfl, Nat.zero_le _, .nil⟩
  | case2 | case3 | case7 | case9 => cases h
  | case4 p ps i t ts hp ht ih =>
    obtain ⟨j, rfl, hj, hm⟩ := ih h
    exact ⟨j + 1, Nat.add_right_comm .., Nat.succ_le_succ hj,
      .slash p t ps _ hp (bne_eq_false_iff_eq.mp (Bool.eq_false_iff.mpr ht)) hm⟩
  | case5 p ps i t ts hp j ih =>
    exact run _ (ih h) fun c hc =>
      .star p ps _ c hp (fun x hx => by simpa using List.all_eq_true.mp List.all_takeWhile x hx) hc
  | case6 p ps i t ts hp j ih =>
    exact run _ (ih h) fun c hc =>
      .starstar p ps _ c hp (fun x hx => by simpa using List.all_eq_true.mp List.all_takeWhile x hx) hc
  | case8 p ps i t ts hp ht ih =>
    obtain ⟨j, rfl, hj, hm⟩ := ih h
    simp only [Bool.or_eq_true, not_or, Bool.not_eq_true, bne_eq_false_iff_eq] at ht
    exact ⟨j + 1, Nat.add_right_comm .., Nat.succ_le_succ hj, .literal p t ps _ hp ht.1 ht.2 hm⟩

theorem varIndex_ok (pat rem : List Tok) (i : Nat) (hok : ∀ t ∈ pat, okPatTok t = true) :
    ∃ r, varIndex pat rem i = .ok r := by
  fun_induction varIndex pat rem i with
  | case1 | case2 | case3 | case7 => exact ⟨_, rfl⟩
  | case4 _ _ _ _ _ _ _ ih | case5 _ _ _ _ _ _ _ ih | case6 _ _ _ _ _ _ _ ih | case8 _ _ _ _ _ _ _ ih =>
    exact ih fun t ht => hok t (.tail _ ht)
  | case9 p _ _ _ _ h1 h2 h3 h4 =>
    simpa [okPatTok, eq_false h1, eq_false h2, eq_false h3, eq_false h4] using hok p (.head _)

theorem lookupMeth_mem {ms : List (Bytes × Meth)} {verb : Bytes} {m : Meth}
    (h : lookupMeth ms verb = some m) : ∃ p ∈ ms, p.2 = m := by
  rw [lookupMeth_eq_find] at h
  obtain ⟨p, hp, rfl⟩ := Option.map_eq_some_iff.mp h
  exact ⟨p, List.mem_of_find?_eq_some hp, rfl⟩

/-- what `search` can find is bound (list-membership reading). -/
theorem lookupSeg_mem : ∀ (cs : List (Bytes × Node)) (k : Bytes) (c : Node), lookupSeg cs k = some c → ∃ k', (k' == k) = true ∧ (k', c) ∈ cs := by
  intro cs k c h
  rw [lookupSeg_eq_find] at h
  obtain ⟨p, hp, rfl⟩ := Option.map_eq_some_iff.mp h
  exact ⟨p.1, (List.find?_some hp :), List.mem_of_find?_eq_some hp⟩

theorem lookupSeg_eq_none {l : List (Bytes × Node)} {k : Bytes} : lookupSeg l k = none ↔ k ∉ l.map (·.1) := by
  rw [lookupSeg_eq_find, Option.map_eq_none_iff, List.find?_eq_none]
  simp only [List.mem_map, beq_iff_eq, not_exists, not_and]

theorem lookupVar_mem {vs : List (Var × Node)} {name : Bytes} {v : Var} {c : Node}
    (h : lookupVar vs name = some (v, c)) : (v, c) ∈ vs ∧ v.name = name := by
  rw [lookupVar_eq_find] at h
  exact ⟨List.mem_of_find?_eq_some h, beq_iff_eq.mp (List.find?_some h :)⟩

/-! `child n e` is the node `insertAt` descends to along edge `e` (a fresh one where there is none),
`setChild n e c` what it rebuilds on the way back: a theorem about `insertAt` is an induction over
the edges whose step is a fact about `child` / `setChild`. -/

def child : Node → Edge → Node
  | .mk segs _ _ _, .seg k => (lookupSeg segs k).getD .empty
  | .mk _ _ _ vars, .var v => varChild vars v.name

def setChild : Node → Edge → Node → Node
  | .mk segs ms al vars, .seg k, c => .mk (upsertSeg segs k c) ms al vars
  | .mk segs ms al vars, .var v, c => .mk segs ms al (upsertVar vars v c)

theorem child_cases (n : Node) (e : Edge) : child n e = .empty ∨
    match e with
    | .seg k => lookupSeg n.segs k = some (child n e)
    | .var v => ∃ v', (v', child n e) ∈ n.vars ∧ v'.name = v.name := by
  obtain ⟨segs, ms, al, vars⟩ := n
  cases e with
  | seg k =>
    rw [child]
    cases hl : lookupSeg segs k with
    | none => exact .inl rfl
    | some c => exact .inr hl
  | var v =>
    rw [child, varChild]
    cases hl : lookupVar vars v.name with
    | none => exact .inl rfl
    | some p => exact .inr ⟨p.1, lookupVar_mem hl⟩

theorem insertAt_nil (n : Node) (f : Node → Outcome Node) : insertAt n [] f = f n := by
  simp only [insertAt]

theorem insertAt_cons (n : Node) (e : Edge) (es : List Edge) (f : Node → Outcome Node) :
    insertAt n (e :: es) f = (insertAt (child n e) es f).map (setChild n e) := by
  obtain ⟨segs, ms, al, vars⟩ := n
  cases e with
  | seg k => rw [insertAt, child]; cases insertAt ((lookupSeg segs k).getD .empty) es f <;> rfl
  | var v => rw [insertAt, child]; cases insertAt (varChild vars v.name) es f <;> rfl

theorem insertAt_cons_ok {n : Node} {e : Edge} {es : List Edge} {f : Node → Outcome Node} {n' : Node} :
    insertAt n (e :: es) f = .ok n' ↔ ∃ c, insertAt (child n e) es f = .ok c ∧ setChild n e c = n' := by
  rw [insertAt_cons, Outcome.map, Outcome.bind_eq_ok]
  simp only [Outcome.ok.injEq]

/-- typed key of an edge: the map key of a literal / verb child, or the variable's name. -/
inductive KEdge where
  | seg (key : Bytes)
  | var (name : Bytes)
deriving Repr, DecidableEq

def keyOf : Edge → KEdge
  | .seg k => .seg k
  | .var v => .var v.name

theorem child_congr (n : Node) {e e' : Edge} (h : keyOf e = keyOf e') : child n e = child n e' := by
  cases n; cases e <;> cases e' <;> simp only [keyOf, KEdge.seg.injEq, KEdge.var.injEq, reduceCtorEq] at h <;>
    simp only [child, h]

theorem varChild_upsert_same (vars : List (Var × Node)) (v : Var) (c : Node) :
    varChild (upsertVar vars v c) v.name = c := by
  obtain ⟨v', h, _⟩ := lookupVar_upsert_same vars v c
  simp only [varChild, h]

theorem varChild_upsert_other {vars : List (Var × Node)} {v : Var} {c : Node} {name : Bytes} (hne : v.name ≠ name) :
    varChild (upsertVar vars v c) name = varChild vars name := by
  simp only [varChild, lookupVar_upsert_other hne]

theorem child_setChild_same (n : Node) (e : Edge) (c : Node) : child (setChild n e c) e = c := by
  obtain ⟨segs, ms, al, vars⟩ := n
  cases e with
  | seg k => simp only [child, setChild, lookupSeg_upsert_same, Option.getD_some]
  | var v => simp only [child, setChild, varChild_upsert_same]

theorem child_setChild_other {n : Node} {e e' : Edge} {c : Node} (h : keyOf e ≠ keyOf e') :
    child (setChild n e c) e' = child n e' := by
  obtain ⟨segs, ms, al, vars⟩ := n
  cases e <;> cases e' <;> simp only [child, setChild]
  · rw [lookupSeg_upsert_other (mt (congrArg KEdge.seg) h)]
  · exact varChild_upsert_other (mt (congrArg KEdge.var) h)

/-! `parseToks` is a loop around one `"/" Segment` step; the step (`segStep`) does not recurse, and what
is said about the loop is said about the step first. -/

/-- the rest of a variable after its field path, `[ "=" Segments ] "}"`: its sub-pattern (`*` when
there is none) and the tokens after the brace. -/
def varPat : List Tok → Outcome (List Tok × List Tok)
  | [] => .panic "invalid token"
  | nxt :: after =>
    if nxt.typ == .equal then
      match patToks after with
      | none => .err "nested-variable"
      | some pr => .ok pr
    else if nxt.typ == .varEnd then .ok ([⟨.star, [42]⟩], after)
    else .panic "invalid token"

/-- the tokens after a slash: the edge, its field entry (none for a literal), the tokens left. -/
def segStep (resolve : List Bytes → Option Nat) : List Tok → Outcome (Edge × List (Option Nat) × List Tok)
  | [] => .panic "index out of range"
  | v :: rest =>
    if v.typ == .star || v.typ == .starstar then .ok (.var ⟨v.val, [v]⟩, [none], rest)
    else if v.typ == .literal then .ok (.seg (slashB ++ v.val), [], rest)
    else if v.typ == .varStart then
      match varPat (fieldKeys rest).2 with
      | .ok (pat, rest') =>
        (match resolve (fieldKeys rest).1 with
         | none => .err "field-not-found"
         | some fp => .ok (.var ⟨toksString pat, pat⟩, [some fp], rest'))
      | .err k => .err k
      | .panic s => .panic s
    else .panic "invalid token"

theorem parseToks_succ (resolve) (fuel : Nat) (t : Tok) (rest : List Tok) :
    parseToks resolve (fuel + 1) (t :: rest) =
      if t.typ == .eof then .ok ⟨[], []⟩
      else if t.typ == .verb then
        match rest with
        | lit :: _ => .ok ⟨[.seg (colonB ++ lit.val)], []⟩
        | [] => .panic "index out of range"
      else if t.typ == .slash then
        match segStep resolve rest with
        | .ok (e, fd, rest') =>
          (match parseToks resolve fuel rest' with
           | .ok p => .ok ⟨e :: p.edges, fd ++ p.varfds⟩
           | .err k => .err k
           | .panic s => .panic s)
        | .err k => .err k
        | .panic s => .panic s
      else .panic "invalid token" := by
  -- `split` would re-simplify the whole unfolded body at every level: slow to check; the tests are decided one by one
  cases rest with
  | nil => rfl
  | cons v rest =>
    rw [parseToks.eq_def]
    refine ite_congr rfl (fun _ => rfl) fun _ => ite_congr rfl (fun _ => rfl) fun _ =>
      ite_congr rfl (fun _ => ?_) fun _ => rfl
    rw [segStep]
    dsimp only
    cases (v.typ == .star || v.typ == .starstar)
    · cases (v.typ == .literal)
      · cases (v.typ == .varStart)
        · rfl
        · rcases fieldKeys rest with ⟨keys, _ | ⟨nxt, after⟩⟩
          · rfl
          · rw [varPat]
            dsimp only
            cases (nxt.typ == .equal)
            · cases (nxt.typ == .varEnd)
              · rfl
              · cases resolve keys <;> rfl
            · cases patToks after with
              | none => rfl
              | some pr => cases resolve keys <;> rfl
      · rfl
    · rfl

end Larking.Trie
