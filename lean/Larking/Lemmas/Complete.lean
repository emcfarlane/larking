import Larking.Lemmas.Search
namespace Larking.Trie
open Larking.Lexer

theorem lookupSeg_WF' (k : Nat) (segs : List (Bytes × Node)) (key : Bytes) (c : Node)
    (h : WFSegs k segs) (hl : lookupSeg segs key = some c) : WF k c := lookupSeg_WF h hl

theorem searchVars_complete {conv verb} (hconv : ∀ f t, conv f t = true) {k : Nat} {toks1 : List Tok} {v : Var}
    {child : Node} {i : Nat} {m : Meth} {caps : Caps} (hidx : varIndex v.toks toks1 0 = .ok (some i))
    (hs : search conv verb child (toks1.drop i) = .found m caps) {vars : List (Var × Node)} (hwf : WFVars k vars)
    (hmem : (v, child) ∈ vars) : ∃ m' caps', searchVars conv verb vars toks1 = .found m' caps' := by
  induction vars with
  | nil => cases hmem
  | cons p more ih =>
    obtain ⟨v1, c1⟩ := p
    -- the loop goes on to `more` only where the head is not the matching variable
    have tail : (v1, c1) ≠ (v, child) → ∃ m' caps', searchVars conv verb more toks1 = .found m' caps' :=
      fun hne => ih hwf.2.2 ((List.mem_cons.mp hmem).resolve_left (Ne.symm hne))
    obtain ⟨_ | i1, hx⟩ := varIndex_ok v1.toks toks1 0 hwf.1 <;> rw [searchVars_cons, hx]
    · exact tail fun heq => by cases heq; rw [hx] at hidx; cases hidx
    · dsimp only
      cases hs1 : search conv verb c1 (toks1.drop i1) with
      | panic _ => exact absurd hs1 (search_ne_panic hwf.2.1 _ _)
      | fail _ => exact tail fun heq => by cases heq; rw [hx] at hidx; cases hidx; rw [hs1] at hs; cases hs
      | found m1 caps1 =>
        have := search_vars_length hwf.2.1 hs1
        obtain ⟨s, hp⟩ | ⟨caps', hf⟩ := bindCap_cases hconv (toksString (toks1.take i1)) m1 caps1
        · exact absurd hp (bindCap_ne_panic (by omega) s)
        · exact ⟨_, _, hf⟩

/-- the node answers a request of kind `verb`: `methods[verb]` or `methodAll` is set. -/
def Binds (verb : Bytes) (n : Node) : Prop := lookupMeth n.methods verb ≠ none ∨ n.all ≠ none

/-- `Reach` without the method and the captures: the edges match the request tokens and the last node
answers `verb`.  A later registration keeps every `Way` but not every `Reach`: a verb binding stored where
only `*` answered takes the request over. -/
inductive Way (verb : Bytes) : Node → List Tok → List Edge → Prop
  | here (n : Node) (toks : List Tok) : toks.length ≤ 1 → Binds verb n → Way verb n toks []
  | seg (n child : Node) (t0 t1 : Tok) (rest : List Tok) (es : List Edge) :
      lookupSeg n.segs (t0.val ++ t1.val) = some child → Way verb child rest es →
      Way verb n (t0 :: t1 :: rest) (.seg (t0.val ++ t1.val) :: es)
  | var (n child : Node) (v : Var) (t0 : Tok) (toks1 : List Tok) (i : Nat) (es : List Edge) :
      t0.typ = .slash → (v, child) ∈ n.vars → 1 ≤ toks1.length →
      varIndex v.toks toks1 0 = .ok (some i) → Way verb child (toks1.drop i) es →
      Way verb n (t0 :: toks1) (.var v :: es)

theorem reach_way {conv} {verb : Bytes} {n : Node} {toks : List Tok} {m : Meth} {caps : Caps} {es : List Edge}
    (h : Reach conv verb n toks m caps es) : Way verb n toks es := by
  induction h with
  | hereVerb n toks m hlen hl => exact .here _ _ hlen (.inl (hl ▸ Option.some_ne_none m))
  | hereAll n toks m hlen _ ha => exact .here _ _ hlen (.inr (ha ▸ Option.some_ne_none m))
  | seg n child t0 t1 rest m caps es hl _ ih => exact .seg _ child t0 t1 rest es hl ih
  | var n child v t0 toks1 i m caps es fp ht0 hmem hlen hidx _ _ _ _ ih =>
    exact .var _ child v t0 toks1 i es ht0 hmem (Nat.le_of_succ_le_succ hlen) hidx ih

theorem Binds.here_found {verb : Bytes} {n : Node} (h : Binds verb n) : ∃ m, here verb n = .found m [] := by
  fun_cases here verb n with
  | case1 | case2 => exact ⟨_, rfl⟩
  | case3 hl ha => exact h.elim (absurd hl) (absurd ha)

theorem way_dispatched (conv) (hconv : ∀ f t, conv f t = true) (verb : Bytes) (n : Node)
    (toks : List Tok) (es : List Edge) (h : Way verb n toks es) (k : Nat) (hwf : WF k n) :
    ∃ m caps, search conv verb n toks = .found m caps := by
  induction h generalizing k with
  | here n toks hlen hb => exact hb.here_found.imp fun m h => ⟨[], by rw [search_short hlen, h]⟩
  | seg n child t0 t1 rest es hl _ ih =>
    obtain ⟨segs, methods, all, vars⟩ := n
    obtain ⟨m', caps', hs⟩ := ih k (lookupSeg_WF hwf.2.2.1 hl)
    exact ⟨m', caps', by rw [search_cons_cons, hl, Option.map_some, hs]⟩
  | var n child v t0 toks1 i es ht0 hmem hlen hidx _ ih =>
    obtain ⟨segs, methods, all, vars⟩ := n
    obtain ⟨m1, caps1, hs1⟩ := ih (k + 1) (WFVars_iff.mp hwf.2.2.2 _ hmem).2
    obtain ⟨mv, capsv, hv⟩ := searchVars_complete hconv hidx hs1 hwf.2.2.2 hmem
    obtain _ | ⟨t1, rest⟩ := toks1
    · cases hlen
    · rw [search_cons_cons]
      -- the literal child is consulted first: it answers, or (never panicking) gives way to the variables
      split
      · exact ⟨_, _, rfl⟩
      · rename_i hs
        obtain ⟨c, hl, hc⟩ := Option.map_eq_some_iff.mp hs
        exact absurd hc (search_ne_panic (lookupSeg_WF hwf.2.2.1 hl) _ _)
      · rw [if_pos (beq_iff_eq.mpr ht0)]; exact ⟨mv, capsv, hv⟩

/-- C02 `route_complete` on any well-formed trie: the request goes to the method at the end of *a* matching
way (`search_sound`), not necessarily to `m`. -/
theorem search_complete (conv) (verb) (hconv : ∀ f t, conv f t = true) :
    ∀ (n : Node) (toks : List Tok) (m : Meth) (caps : Caps) (es : List Edge),
    Reach conv verb n toks m caps es → ∀ k, WF k n →
    ∃ m' caps', search conv verb n toks = .found m' caps' :=
  fun n toks _ _ es h => way_dispatched conv hconv verb n toks es (reach_way h)

end Larking.Trie
