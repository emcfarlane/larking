import Larking.Model.Lifecycle
namespace Larking.Lifecycle

/-- once `close` has returned the stream is closed and no call is in flight. -/
def Inv (s : St) : Prop := s.waited = true → s.closed = true ∧ s.count = 0

theorem inv_init : Inv init := nofun

theorem step_inv (s : St) (st : Step) (h : Inv s) : Inv (step true s st) := by
  cases st with
  | begin =>
    simp only [step, Bool.true_and]
    split
    · intro hw; exact h hw
    · -- the call would start: but once `waited` the stream is `closed`, and `begin` is refused
      rename_i hc
      intro hw
      have := h hw
      simp [this.1] at hc
  | done =>
    simp only [step]
    split
    · intro hw; have := h hw; simp only at *; omega
    · exact h
  | mark => intro hw; exact ⟨rfl, (h hw).2⟩
  | wait =>
    simp only [step]
    split
    · rename_i hc
      intro _
      simp only [Bool.and_eq_true, beq_iff_eq] at hc
      exact hc
    · exact h

theorem run_inv (steps : List Step) (s : St) (h : Inv s) : Inv (run true steps s) :=
  List.foldlRecOn steps _ h fun s hs st _ => step_inv s st hs

theorem waited_stays (g : Bool) (s : St) (st : Step) (h : s.waited = true) : (step g s st).waited = true := by
  cases st <;> simp only [step] <;> (try split) <;> simp [h]

theorem run_waited_stays (g : Bool) (steps : List Step) (s : St) (h : s.waited = true) :
    (run g steps s).waited = true :=
  List.foldlRecOn (motive := fun s => s.waited = true) steps _ h fun s hs st _ => waited_stays g s st hs

end Larking.Lifecycle
