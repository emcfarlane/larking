import Larking.Model.FieldPath
namespace Larking.FieldPath

theorem mutablePath_cons (v : Val) (n : Nat) (p : List Nat) :
    mutablePath v (n :: p) = mutablePath (v.field n) p := rfl

theorem select_eq (fs : List Field) (names : List Bytes) (v : Val) :
    select fs v names = (fieldPath fs names).map (mutablePath v) := by
  -- the two functions branch alike; below a message field the hypothesis is used at `v.field num`
  fun_induction fieldPath fs names generalizing v <;>
    simp [*, select, Function.comp_def, mutablePath_cons] <;> rfl

theorem fieldPath_length (fs : List Field) (names : List Bytes) (p : List Nat)
    (h : fieldPath fs names = some p) : p.length = names.length := by
  fun_induction fieldPath fs names generalizing p with
  | case1 => cases h; rfl
  | case2 fs name => simp only [Option.map_eq_some_iff] at h; obtain ⟨f, _, rfl⟩ := h; rfl
  | case3 | case4 | case5 => cases h
  | case6 fs name n2 rest _ _ num rep d _ _ ih =>
    simp only [Option.map_eq_some_iff] at h; obtain ⟨q, hq, rfl⟩ := h
    simp [ih q hq]

theorem resolve_all {fs : List Field} {sel : Bytes} {p : List Nat} (h : resolve true fs sel = some p)
    (v : Val) :
    p.length = (splitDots sel).length ∧ select fs v (splitDots sel) = some (mutablePath v p) :=
  ⟨fieldPath_length fs _ p h, by rw [select_eq, show fieldPath fs (splitDots sel) = some p from h]; rfl⟩

end Larking.FieldPath
