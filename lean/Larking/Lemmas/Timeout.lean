import Larking.Model.Timeout
namespace Larking.Timeout

theorem digitsVal_lt8 (ds : Bytes) (h : ds.all isDigit = true) (hl : ds.length ≤ 8) :
    digitsVal ds < 100000000 :=
  have h1 : digitsVal ds < 10 ^ ds.length := foldl_digits_lt ds fun c hc =>
    Nat.sub_le_sub_right (of_decide_eq_true (Bool.and_eq_true_iff.mp (List.all_eq_true.mp h c hc)).2) 48
  Nat.lt_of_lt_of_le h1 (Nat.pow_le_pow_right (by decide) hl)

theorem parseNum_digits (ds : Bytes) (hne : ds ≠ []) (h : ds.all isDigit = true) :
    parseNum false ds = some (digitsVal ds : Int) := by
  cases ds with
  | nil => exact absurd rfl hne
  | cons c rest => simp [parseNum, h]

theorem parseNum_some {s : Bytes} {v : Int} (h : parseNum false s = some v) :
    s ≠ [] ∧ s.all isDigit = true ∧ v = (digitsVal s : Int) := by
  cases s with
  | nil => cases h
  | cons c rest =>
    simp only [parseNum, Bool.false_and, Bool.false_eq_true, if_false, Option.ite_none_right_eq_some,
      Option.some.injEq] at h
    exact ⟨List.cons_ne_nil _ _, h.1, h.2.symm⟩

theorem decodeTimeout_concat (units : List (Nat × Int)) (minLen maxLen : Nat) (sign : Bool) (ds : Bytes)
    (u : UInt8) :
    decodeTimeout units minLen maxLen sign (ds ++ [u]) =
      if ds.length + 1 < minLen then .err "too-short"
      else if ds.length + 1 > maxLen then .err "too-long"
      else if unitOf units u == 0 then .err "unit"
      else match parseNum sign ds with
        | none => .err "digits"
        | some t =>
          if unitOf units u == hourNs && t > maxInt64 / hourNs then .ok maxInt64
          else .ok (wrap64 (unitOf units u * t)) := by
  simp only [decodeTimeout, List.length_append, List.length_singleton, List.getLast?_append,
    List.getLast?_singleton, Option.some_or, Option.getD_some, List.dropLast_concat]
  rfl

theorem wrap64_id (x : Int) (h1 : minInt64 ≤ x) (h2 : x ≤ maxInt64) : wrap64 x = x := by
  unfold minInt64 maxInt64 at *
  rw [wrap64, Int.emod_eq_of_lt (by omega) (by omega), Int.add_sub_cancel]

theorem unitOf_nil (c : UInt8) : unitOf [] c = 0 := rfl

theorem unitOf_cons (k : Nat) (v : Int) (us : List (Nat × Int)) (c : UInt8) :
    unitOf ((k, v) :: us) c = if c.toNat = k then v else unitOf us c := by
  simp only [unitOf, List.find?_cons]
  by_cases h : c.toNat = k
  · rw [if_pos h, beq_iff_eq.mpr h.symm]
  · rw [if_neg h, beq_false_of_ne fun e => h e.symm]

theorem unitOf_ind {P : Int → Prop} {us : List (Nat × Int)} (h0 : P 0) (h : ∀ p ∈ us, P p.2)
    (c : UInt8) : P (unitOf us c) := by
  fun_cases unitOf us c with
  | case1 p hp => exact h p (List.mem_of_find?_eq_some hp)
  | case2 => exact h0

/-- for `t < 10^8` the hour test is the only clamp `decodeTimeout` needs, as long as every other unit is
at most a minute: then `d * t` fits an int64. -/
theorem tail_value {d : Int} {t : Nat} (ht : t < 100000000)
    (hd : d = hourNs ∨ (0 ≤ d ∧ d ≤ 60000000000)) :
    (if (d == hourNs && decide ((t : Int) > maxInt64 / hourNs)) = true then Outcome.ok maxInt64
      else Outcome.ok (wrap64 (d * (t : Int)))) = Outcome.ok (min ((t : Int) * d) maxInt64) := by
  have hdiv : maxInt64 / hourNs = 2562047 := by decide
  have fits : d * t ≤ maxInt64 → 0 ≤ d * t → wrap64 (d * t) = min (d * t) maxInt64 := fun h1 h0 => by
    rw [wrap64_id _ (Int.le_trans (by decide) h0) h1, Int.min_eq_left h1]
  rw [hdiv, Int.mul_comm (t : Int) d]
  rcases hd with rfl | ⟨h0, h1⟩
  · by_cases hb : (t : Int) > 2562047
    · rw [if_pos (by simp [hb]), Int.min_eq_right]; unfold hourNs maxInt64; omega
    · rw [if_neg (by simp [hb]), fits (by unfold hourNs maxInt64; omega)
        (Int.mul_nonneg (by decide) (Int.natCast_nonneg t))]
  · have h2 : d * t ≤ 60000000000 * 100000000 :=
      Int.mul_le_mul h1 (by omega) (Int.natCast_nonneg t) (by decide)
    have hne : (d == hourNs) = false := by unfold hourNs; simp; omega
    rw [hne, Bool.false_and, if_neg Bool.false_ne_true,
      fits (Int.le_trans h2 (by decide)) (Int.mul_nonneg h0 (Int.natCast_nonneg t))]

end Larking.Timeout
