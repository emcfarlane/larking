import Larking.Lemmas.StreamCodec
namespace Larking.Codec

def scanInit : Scan := ⟨0, false, false⟩

/-- the scanner run over a plain byte list: index just after the closing brace. -/
def scanPure : Scan → Bytes → Nat → Option Nat
  | _, [], _ => none
  | s, c :: rest, i =>
    match scanByte s c with
    | .done => some (i + 1)
    | .unbalanced => none
    | .cont s' => scanPure s' rest (i + 1)

/-- messages `CodecJSON` can frame: the scanner closes the top-level object exactly at the
last byte (protojson output has this shape). -/
def JsonFrame (m : Bytes) : Prop := scanPure scanInit m 0 = some m.length

theorem scanPure_gt {s : Scan} {bs : Bytes} {i j : Nat} (h : scanPure s bs i = some j) :
    i < j ∧ j ≤ i + bs.length := by
  fun_induction scanPure s bs i with
  | case1 | case3 => cases h
  | case2 s c rest i hs => cases h; exact ⟨Nat.lt_succ_self i, Nat.add_le_add_left (Nat.succ_pos _) i⟩
  | case4 s c rest i s' hs ih => have := ih h; rw [List.length_cons]; omega

theorem scanPure_append {s : Scan} {bs : Bytes} {i j : Nat} (rest : Bytes) (h : scanPure s bs i = some j) :
    scanPure s (bs ++ rest) i = some j := by
  fun_induction scanPure s bs i with
  | case1 | case3 => cases h
  | case2 s c rest i hs => simpa only [List.cons_append, scanPure, hs] using h
  | case4 s c rest i s' hs ih => simpa only [List.cons_append, scanPure, hs] using ih h

/-- the reader loop computes `scanPure` of the pending stream `W`, whatever the read schedule;
`lim = i + fuel` is the limit. -/
theorem jsonLoop_scan {W : Bytes} {lim : Nat} (fuel : Nat) {i : Nat} (s : Scan) {e : Env} {b : Buf}
    (hi : i + fuel = lim) (hW : b.data ++ e.data = W) :
    ∃ dst e' n err, jsonLoop fuel i s e b = (⟨dst, n, err⟩, e') ∧ dst.data ++ e'.data = W ∧
      n ≤ dst.data.length ∧
      match scanPure s (W.drop i) i with
      | some j => if j ≤ lim then n = j ∧ err = none else n = 0 ∧ err = some .tooLarge
      | none => n = 0 ∧ err ≠ none ∧ (err = some .eof → dst.data = W) := by
  induction fuel generalizing i s e b with
  | zero =>
    refine ⟨b, e, 0, _, rfl, hW, Nat.zero_le _, ?_⟩
    split
    · rename_i j hj
      have := (scanPure_gt hj).1
      rw [if_neg (by omega)]; exact ⟨rfl, rfl⟩
    · exact ⟨rfl, by simp, by simp⟩
  | succ fuel ih =>
    unfold jsonLoop
    by_cases hiW : i < W.length
    · obtain ⟨b1, e1, hfill, hc, hlt, hget⟩ := fill_ok hW i hiW
      rw [List.drop_eq_getElem_cons hiW, scanPure]
      simp only [hfill, hget, List.getElem?_eq_getElem hiW]
      cases scanByte s W[i] with
      | done =>
        exact ⟨b1, e1, _, _, rfl, hc, hlt, by dsimp only; rw [if_pos (by omega)]; exact ⟨rfl, rfl⟩⟩
      | unbalanced => exact ⟨b1, e1, _, _, rfl, hc, Nat.zero_le _, rfl, by simp, by simp⟩
      | cont s' => exact ih s' (by omega) hc
    · obtain ⟨b1, e1, hfill, hb1, he1⟩ := fill_eof hW i (Nat.le_of_not_lt hiW)
      rw [List.drop_eq_nil_of_le (Nat.le_of_not_lt hiW), scanPure]
      simp only [hfill]
      exact ⟨b1, e1, _, _, rfl, by rw [he1, List.append_nil, hb1], Nat.zero_le _, rfl, by simp,
        fun _ => hb1⟩

theorem json_frame (e : Env) (b : Buf) (limit : Nat) (m rest : Bytes)
    (hW : b.data ++ e.data = jsonWriteNext m ++ rest) (hm : JsonFrame m) (hlim : m.length ≤ limit) :
    ∃ dst e', jsonReadNext e b limit = (⟨dst, m.length, none⟩, e') ∧
      dst.data.take m.length = m ∧ dst.data.drop m.length ++ e'.data = rest := by
  obtain ⟨dst, e', n, err, h, hc, hl, hs⟩ :=
    jsonLoop_scan (W := m ++ rest) limit scanInit (Nat.zero_add _) hW
  simp only [List.drop_zero, scanPure_append rest hm, if_pos hlim] at hs
  obtain ⟨rfl, rfl⟩ := hs
  exact ⟨dst, e', h, append_take_of_le dst.data e'.data m rest hc hl⟩

theorem json_safe (e : Env) (b : Buf) (limit : Nat) :
    (jsonReadNext e b limit).1.n ≤ (jsonReadNext e b limit).1.dst.data.length ∧
    (jsonReadNext e b limit).1.n ≤ limit ∧
    ((jsonReadNext e b limit).1.err ≠ none → (jsonReadNext e b limit).1.n = 0) := by
  obtain ⟨dst, e', n, err, h, -, hl, hs⟩ :=
    jsonLoop_scan limit ⟨0, false, false⟩ (e := e) (b := b) (Nat.zero_add _) rfl
  rw [jsonReadNext, h]
  refine ⟨hl, ?_⟩
  show n ≤ limit ∧ (err ≠ none → n = 0)
  split at hs
  · split at hs
    · exact ⟨by omega, fun h => absurd hs.2 h⟩
    · exact ⟨by omega, fun _ => hs.1⟩
  · exact ⟨by omega, fun _ => hs.1⟩

theorem json_empty (e : Env) (b : Buf) (limit : Nat) (hl : 0 < limit) (h : b.data ++ e.data = []) :
    ∃ dst e', jsonReadNext e b limit = (⟨dst, 0, some .eof⟩, e') ∧ dst.data = [] := by
  obtain ⟨k, rfl⟩ := Nat.exists_eq_succ_of_ne_zero (Nat.ne_of_gt hl)
  obtain ⟨b1, e1, hfill, hb1, -⟩ := fill_eof h 0 (Nat.le_refl _)
  exact ⟨b1, e1, by simp only [jsonReadNext, jsonLoop, hfill], hb1⟩

/-- a closing brace found in the prefix would be found at the same place in the whole frame. -/
theorem scanPure_prefix_none (s : Scan) (m : Bytes) (i : Nat) (h : scanPure s m i = some (i + m.length))
    (k : Nat) (hk : k < m.length) : scanPure s (m.take k) i = none := by
  cases hp : scanPure s (m.take k) i with
  | none => rfl
  | some j =>
    have hj := (scanPure_gt hp).2
    have := scanPure_append (m.drop k) hp
    rw [List.take_append_drop, h, Option.some.injEq] at this
    have := List.length_take_le k m
    omega

theorem json_truncated (e : Env) (b : Buf) (limit : Nat) (m : Bytes) (k : Nat)
    (hm : JsonFrame m) (hk2 : k < m.length) (hW : b.data ++ e.data = m.take k) :
    ∃ dst err e', jsonReadNext e b limit = (⟨dst, 0, some err⟩, e') ∧
      (err = .eof → dst.data = m.take k) := by
  obtain ⟨dst, e', n, err, h, -, -, hs⟩ :=
    jsonLoop_scan limit scanInit (Nat.zero_add _) hW
  rw [List.drop_zero, scanPure_prefix_none scanInit m 0 (by simpa [JsonFrame] using hm) k hk2] at hs
  obtain ⟨rfl, hne, heof⟩ := hs
  cases err with
  | none => exact absurd rfl hne
  | some err => exact ⟨dst, err, e', h, fun h => heof (by rw [h])⟩

/-- `protoSeq` over `jsonReadNext`. -/
def jsonSeq (limit : Nat) : Nat → List Nat → Env → Buf → List Bytes × Option RErr
  | 0, _, _, _ => ([], none)
  | k + 1, spares, e, b =>
    match jsonReadNext e b limit with
    | (⟨dst, n, none⟩, e') =>
      let r := jsonSeq limit k spares.tail e' ⟨dst.data.drop n, spares.headD 0⟩
      (dst.data.take n :: r.1, r.2)
    | (⟨_, _, some err⟩, _) => ([], some err)

theorem json_sequence (limit : Nat) (hl : 0 < limit) (ms : List Bytes) (spares : List Nat) (e : Env)
    (b : Buf) (hall : ∀ m ∈ ms, m.length ≤ limit ∧ JsonFrame m)
    (hW : b.data ++ e.data = (ms.map jsonWriteNext).flatten) :
    jsonSeq limit (ms.length + 1) spares e b = (ms, some .eof) := by
  induction ms generalizing spares e b with
  | nil =>
    obtain ⟨dst, e', h, -⟩ := json_empty e b limit hl hW
    simp [jsonSeq, h]
  | cons m ms ih =>
    have hm := hall m (by simp)
    obtain ⟨dst, e', h, ht, hd⟩ := json_frame e b limit m ((ms.map jsonWriteNext).flatten)
      hW hm.2 hm.1
    have := ih spares.tail e' ⟨dst.data.drop m.length, spares.headD 0⟩
      (fun x hx => hall x (by simp [hx])) hd
    simp only [List.length_cons, jsonSeq, h, this, ht]

-- The two loops below use `readMore` only through its lemmas. Their `fun_induction` cases hold `let r := readMore e b`,
-- and the unifier, comparing `r.1` with a lemma's `(readMore e b).1`, would first unfold `readMore`: slow to check.
attribute [local irreducible] readMore

theorem body_chunk (e : Env) (b : Buf) (limit : Nat) :
    let r := bodyReadNext e b limit
    r.1.dst.data ++ r.2.data = b.data ++ e.data ∧
    r.1.n ≤ limit ∧ r.1.n ≤ r.1.dst.data.length ∧
    (r.1.err = none → r.1.n = limit) ∧
    (r.1.err ≠ none → r.1.err = some .eof ∧ r.2.data = [] ∧ r.1.n = r.1.dst.data.length) := by
  unfold bodyReadNext
  fun_induction bodyLoop e b limit with
  | case1 e b h => exact ⟨rfl, Nat.le_refl _, h, fun _ => rfl, fun h => absurd rfl h⟩
  | case2 e b h hem r =>
    have hemp := readMore_empty e b hem
    refine ⟨readMore_conserve e b, ?_, Nat.le_refl _, nofun, fun _ => ⟨rfl, hemp.2, rfl⟩⟩
    show r.1.data.length ≤ limit
    rw [hemp.1]; omega
  | case3 e b h hne r hflag hbig =>
    exact ⟨readMore_conserve e b, Nat.le_refl _, Nat.le_of_lt hbig, fun _ => rfl, fun h => absurd rfl h⟩
  | case4 e b h hne r hflag hsmall =>
    exact ⟨readMore_conserve e b, Nat.le_of_not_lt hsmall, Nat.le_refl _, nofun,
      fun _ => ⟨rfl, readMore_eof_flag e b hflag, rfl⟩⟩
  | case5 e b h hne r hflag ih => exact ⟨ih.1.trans (readMore_conserve e b), ih.2⟩

theorem readMore_total (e : Env) (b : Buf) (total : Nat) :
    total + ((readMore e b).1.data.length - b.data.length) + (readMore e b).2.2.data.length
      = total + e.data.length := by
  rw [readMore_data, readMore_env, List.length_append, Nat.add_sub_cancel_left, Nat.add_assoc,
    ← List.length_append, read_conserve]

/-- `total` counts what has been read, so `total + e.data.length` is the same in every round. -/
theorem readAllLoop_spec (e : Env) (b : Buf) (total limit : Nat) (htot : total ≤ limit) :
    (total + e.data.length ≤ limit →
      (readAllLoop e b total limit).2.1 = none ∧
      (readAllLoop e b total limit).1.data = b.data ++ e.data ∧
      (readAllLoop e b total limit).2.2.data = []) ∧
    (total + e.data.length > limit → (readAllLoop e b total limit).2.1 = some .tooLarge) := by
  fun_induction readAllLoop e b total limit with
  | case1 e b total hem r =>
    have he : e.data = [] := List.isEmpty_iff.1 hem
    have hemp := readMore_empty e b hem
    rw [he]
    exact ⟨fun _ => ⟨rfl, hemp.1.trans (List.append_nil _).symm, hemp.2⟩, fun h => absurd htot (Nat.not_le.2 h)⟩
  | case2 e b total hne r total' hbig =>
    have hinv : total' + r.2.2.data.length = total + e.data.length := readMore_total e b total
    exact ⟨fun h => by omega, fun _ => rfl⟩
  | case3 e b total hne r total' hsmall hflag =>
    have hinv : total' + r.2.2.data.length = total + e.data.length := readMore_total e b total
    have hemp : r.2.2.data = [] := readMore_eof_flag e b hflag
    have hc : r.1.data ++ r.2.2.data = b.data ++ e.data := readMore_conserve e b
    rw [hemp] at hinv hc
    exact ⟨fun _ => ⟨rfl, (List.append_nil _).symm.trans hc, hemp⟩, fun h => absurd (by rwa [← hinv] at h) hsmall⟩
  | case4 e b total hne r total' hsmall hflag ih =>
    have hinv : total' + r.2.2.data.length = total + e.data.length := readMore_total e b total
    rw [← hinv]
    exact ⟨fun h => let ⟨h1, h2, h3⟩ := (ih (Nat.le_of_not_lt hsmall)).1 h
      ⟨h1, h2.trans (readMore_conserve e b), h3⟩, (ih (Nat.le_of_not_lt hsmall)).2⟩

end Larking.Codec
