import Larking.Model.TrieDel
import Larking.Lemmas.Provenance
/-
  What a pass over a list of children does (`DelKids`) is said once, as what a reader of the list sees
  afterwards: an entry is still there, or is what `delRule` made of it (`DelKids.mem_fwd`, `lookup_fwd`,
  `mem_bwd`).  At a node the verb map lost one entry of the method or one child list changed, nothing else
  (`delRule_eq_some`; `delRule_step` for the four lookups).  Facts about one way through the trie then go by
  induction over the way, facts about the whole trie by `Node.induct`.
-/
namespace Larking.Trie

/-- what the pruning may rely on: a node at which (or below which) something is bound is alive. -/
def AliveSound (counts : List String) : Prop :=
  counts.contains "methodAll" = true ∧ counts.contains "methods" = true ∧
  counts.contains "variables" = true ∧ counts.contains "segments" = true

/-- when `alive` counts every field, the only dead node is the empty one. -/
theorem aliveWith_eq_false {counts : List String} (hs : AliveSound counts) {n : Node}
    (h : aliveWith counts n = false) : n = .empty := by
  obtain ⟨segs, methods, all, vars⟩ := n
  obtain ⟨h1, h2, h3, h4⟩ := hs
  simp only [aliveWith, h1, h2, h3, h4, Bool.true_and, Bool.or_eq_false_iff, Bool.not_eq_eq_eq_not,
    Bool.not_false, List.isEmpty_iff, Option.isSome_eq_false_iff, Option.isNone_iff_eq_none] at h
  obtain ⟨⟨⟨rfl, rfl⟩, rfl⟩, rfl⟩ := h
  rfl

theorem stored_alive {counts : List String} (hs : AliveSound counts) {n : Node} {ks : List KEdge}
    {vk : Option Bytes} {m : Meth} (h : StoredK n ks vk m) : aliveWith counts n = true := by
  cases ha : aliveWith counts n with
  | true => rfl
  | false => exact absurd (aliveWith_eq_false hs ha ▸ h) StoredK_empty

theorem delMeth_eq_some {ms ms' : List (Bytes × Meth)} {name : Nat} (h : delMeth ms name = some ms') :
    ∃ pre k m post, ms = pre ++ (k, m) :: post ∧ ms' = pre ++ post ∧ m.mid = name := by
  fun_induction delMeth ms name generalizing ms' with
  | case1 => cases h
  | case2 k m rest hmid => exact ⟨[], k, m, rest, rfl, (Option.some.inj h).symm, beq_iff_eq.mp hmid⟩
  | case3 k m rest _ ih =>
    obtain ⟨rest', hd, rfl⟩ := Option.map_eq_some_iff.mp h
    obtain ⟨pre, k', m', post, rfl, rfl, hm⟩ := ih hd
    exact ⟨(k, m) :: pre, k', m', post, rfl, rfl, hm⟩

theorem delMeth_lookup {ms ms' : List (Bytes × Meth)} {name : Nat} (h : delMeth ms name = some ms')
    {verb : Bytes} {o : Option Meth} (ho : lookupMeth ms verb = o) (hne : ∀ m, o = some m → m.mid ≠ name) :
    lookupMeth ms' verb = o := by
  obtain ⟨pre, k, m, post, rfl, rfl, hm⟩ := delMeth_eq_some h
  subst ho
  simp only [lookupMeth_eq_find, List.find?_append, List.find?_cons] at hne ⊢
  cases hp : pre.find? (·.1 == verb) with
  | some p => rfl
  | none =>
    cases hk : k == verb with
    | false => rfl
    | true => rw [hp, hk] at hne; exact absurd hm (hne m rfl)

theorem delMeth_only_removes {ms ms' : List (Bytes × Meth)} {name : Nat} (h : delMeth ms name = some ms') :
    ∀ p ∈ ms', p ∈ ms := by
  obtain ⟨pre, k, m, post, rfl, rfl, _⟩ := delMeth_eq_some h
  exact fun _ hp => ((List.sublist_cons_self _ post).append_left pre).subset hp

theorem delMeth_none {ms : List (Bytes × Meth)} {name : Nat} (h : delMeth ms name = none) :
    ∀ p ∈ ms, p.2.mid ≠ name := by
  fun_induction delMeth ms name with
  | case1 => exact fun _ hp => nomatch hp
  | case2 => cases h
  | case3 k m0 rest hmid ih =>
    intro p hp
    cases hp with
    | head => exact fun he => hmid (beq_iff_eq.mpr he)
    | tail _ hp => exact ih (Option.map_eq_none_iff.mp h) p hp

/-- the loop `delSegs` and `delVars` share: the first child that `del` changes is replaced, or
dropped when it is no longer alive. -/
def delKids {κ : Type} (del : Node → Option Node) (alive : Node → Bool) :
    List (κ × Node) → Option (List (κ × Node))
  | [] => none
  | (k, c) :: rest =>
    match del c with
    | some c' => some (if alive c' then (k, c') :: rest else rest)
    | none => (delKids del alive rest).map ((k, c) :: ·)

theorem delSegs_eq (counts : List String) (name : Nat) (l : List (Bytes × Node)) :
    delSegs counts name l = delKids (delRule counts name) (aliveWith counts) l := by
  induction l with
  | nil => rfl
  | cons p rest ih => rw [delSegs, delKids, ih]; rfl

theorem delVars_eq (counts : List String) (name : Nat) (l : List (Var × Node)) :
    delVars counts name l = delKids (delRule counts name) (aliveWith counts) l := by
  induction l with
  | nil => rfl
  | cons p rest ih => rw [delVars, delKids, ih]; rfl

section
variable {κ : Type} {del : Node → Option Node} {alive : Node → Bool} {l l' : List (κ × Node)}

theorem delKids_none : delKids del alive l = none → ∀ p ∈ l, del p.2 = none := by
  fun_induction delKids del alive l with
  | case1 => exact fun _ _ hp => nomatch hp
  | case2 => exact nofun
  | case3 k c rest hd ih =>
    intro h q hq
    cases hq with
    | head => exact hd
    | tail _ hq => exact ih (Option.map_eq_none_iff.mp h) q hq

/-- a pass of the loop that changed something: the first child `del` changes is replaced by what
`del` made of it, or dropped when that is dead; the children before it stay. -/
inductive DelKids {κ : Type} (del : Node → Option Node) (alive : Node → Bool) :
    List (κ × Node) → List (κ × Node) → Prop
  | keep (k c c' rest) : del c = some c' → alive c' = true →
      DelKids del alive ((k, c) :: rest) ((k, c') :: rest)
  | prune (k c c' rest) : del c = some c' → alive c' = false → DelKids del alive ((k, c) :: rest) rest
  | skip (k c rest rest') : del c = none → DelKids del alive rest rest' →
      DelKids del alive ((k, c) :: rest) ((k, c) :: rest')

theorem delKids_some (h : delKids del alive l = some l') : DelKids del alive l l' := by
  fun_induction delKids del alive l generalizing l' with
  | case1 => cases h
  | case2 k c rest c' hd =>
    obtain rfl := Option.some.inj h
    cases ha : alive c' with
    | true => exact .keep k c c' rest hd ha
    | false => exact .prune k c c' rest hd ha
  | case3 k c rest hd ih =>
    obtain ⟨r, hr, rfl⟩ := Option.map_eq_some_iff.mp h
    exact .skip k c rest r hd (ih hr)

theorem delSegs_some {counts : List String} {name : Nat} {l l' : List (Bytes × Node)}
    (h : delSegs counts name l = some l') : DelKids (delRule counts name) (aliveWith counts) l l' :=
  delKids_some (delSegs_eq .. ▸ h)

theorem delVars_some {counts : List String} {name : Nat} {l l' : List (Var × Node)}
    (h : delVars counts name l = some l') : DelKids (delRule counts name) (aliveWith counts) l l' :=
  delKids_some (delVars_eq .. ▸ h)

namespace DelKids

theorem mem_fwd (h : DelKids del alive l l') {k : κ} {c : Node} (hm : (k, c) ∈ l) :
    (k, c) ∈ l' ∨ ∃ c', del c = some c' ∧ (alive c' = true → (k, c') ∈ l') := by
  induction h with
  | keep k0 c0 c0' rest hd _ =>
    cases hm with
    | head => exact .inr ⟨c0', hd, fun _ => .head _⟩
    | tail _ hm => exact .inl (.tail _ hm)
  | prune k0 c0 c0' rest hd ha =>
    cases hm with
    | head => exact .inr ⟨c0', hd, fun h => absurd (ha ▸ h) Bool.false_ne_true⟩
    | tail _ hm => exact .inl hm
  | skip k0 c0 rest rest' _ _ ih =>
    cases hm with
    | head => exact .inl (.head _)
    | tail _ hm => exact (ih hm).imp (.tail _) (.imp fun _ h => ⟨h.1, fun ha => .tail _ (h.2 ha)⟩)

theorem mem_bwd (h : DelKids del alive l l') {k : κ} {c' : Node} (hm : (k, c') ∈ l') :
    (k, c') ∈ l ∨ ∃ c, (k, c) ∈ l ∧ del c = some c' := by
  induction h with
  | keep k0 c0 c0' rest hd _ =>
    cases hm with
    | head => exact .inr ⟨c0, .head _, hd⟩
    | tail _ hm => exact .inl (.tail _ hm)
  | prune k0 c0 c0' rest _ _ => exact .inl (.tail _ hm)
  | skip k0 c0 rest rest' _ _ ih =>
    cases hm with
    | head => exact .inl (.head _)
    | tail _ hm => exact (ih hm).imp (.tail _) (.imp fun _ h => ⟨.tail _ h.1, h.2⟩)

theorem forall_mem {P : κ × Node → Prop} (h : DelKids del alive l l') (hl : ∀ p ∈ l, P p)
    (hP : ∀ k c c', (k, c) ∈ l → del c = some c' → P (k, c')) : ∀ p ∈ l', P p := by
  rintro ⟨k, c'⟩ hp
  rcases h.mem_bwd hp with h1 | ⟨c, h1, h2⟩
  · exact hl _ h1
  · exact hP k c c' h1 h2

/-- `mem_fwd` for the first entry under a key, as `lookupSeg` reads the segment map. -/
theorem lookup_fwd {l l' : List (Bytes × Node)} (h : DelKids del alive l l') {k : Bytes} {c : Node}
    (hl : lookupSeg l k = some c) :
    lookupSeg l' k = some c ∨ ∃ c', del c = some c' ∧ (alive c' = true → lookupSeg l' k = some c') := by
  induction h with
  | keep k0 c0 c0' rest hd _ =>
    rw [lookupSeg] at hl ⊢
    revert hl
    cases k0 == k with
    | true => exact fun hl => .inr ⟨c0', Option.some.inj hl ▸ hd, fun _ => rfl⟩
    | false => exact .inl
  | prune k0 c0 c0' rest hd ha =>
    rw [lookupSeg] at hl
    revert hl
    cases k0 == k with
    | true => exact fun hl => .inr ⟨c0', Option.some.inj hl ▸ hd, fun h => absurd (ha ▸ h) Bool.false_ne_true⟩
    | false => exact .inl
  | skip k0 c0 rest rest' _ _ ih =>
    rw [lookupSeg] at hl ⊢
    revert hl
    cases k0 == k with
    | true => exact .inl
    | false => exact ih

end DelKids
end

theorem delRule_eq_some {counts : List String} {name : Nat} {segs methods all vars} {n' : Node}
    (h : delRule counts name (.mk segs methods all vars) = some n') :
    (∃ segs', DelKids (delRule counts name) (aliveWith counts) segs segs' ∧
      n' = .mk segs' methods all vars) ∨
    (∃ vars', DelKids (delRule counts name) (aliveWith counts) vars vars' ∧
      n' = .mk segs methods all vars') ∨
    (∃ ms, delMeth methods name = some ms ∧ n' = .mk segs ms all vars) := by
  simp only [delRule] at h
  split at h
  · exact .inl ⟨_, delSegs_some ‹_›, (Option.some.inj h).symm⟩
  · split at h
    · exact .inr (.inl ⟨_, delVars_some ‹_›, (Option.some.inj h).symm⟩)
    · obtain ⟨ms, hm, rfl⟩ := Option.map_eq_some_iff.mp h
      exact .inr (.inr ⟨ms, hm, rfl⟩)

theorem delRule_eq_none {counts : List String} {name : Nat} {segs methods all vars}
    (h : delRule counts name (.mk segs methods all vars) = none) :
    (∀ p ∈ segs, delRule counts name p.2 = none) ∧ (∀ p ∈ vars, delRule counts name p.2 = none) ∧
    delMeth methods name = none := by
  simp only [delRule, delSegs_eq, delVars_eq] at h
  split at h
  · cases h
  · split at h
    · cases h
    · exact ⟨delKids_none ‹_›, delKids_none ‹_›, Option.map_eq_none_iff.mp h⟩

theorem delRule_step {counts : List String} {name : Nat} {n n' : Node} (h : delRule counts name n = some n') :
    (∀ vk m, m.mid ≠ name → StoredHere n vk m → StoredHere n' vk m) ∧
    (∀ verb, lookupMeth n.methods verb = none → lookupMeth n'.methods verb = none) ∧
    (∀ k c, lookupSeg n.segs k = some c → lookupSeg n'.segs k = some c ∨
      ∃ c', delRule counts name c = some c' ∧ (aliveWith counts c' = true → lookupSeg n'.segs k = some c')) ∧
    ∀ v c, (v, c) ∈ n.vars → (v, c) ∈ n'.vars ∨
      ∃ c', delRule counts name c = some c' ∧ (aliveWith counts c' = true → (v, c') ∈ n'.vars) := by
  obtain ⟨segs, methods, all, vars⟩ := n
  rcases delRule_eq_some h with ⟨_, hd, rfl⟩ | ⟨_, hd, rfl⟩ | ⟨ms, hd, rfl⟩
  · exact ⟨fun _ _ _ => id, fun _ => id, fun _ _ => hd.lookup_fwd, fun _ _ => .inl⟩
  · exact ⟨fun _ _ _ => id, fun _ => id, fun _ _ => .inl, fun _ _ => hd.mem_fwd⟩
  · refine ⟨fun vk m hne hst => ?_, fun _ hl => delMeth_lookup hd hl nofun, fun _ _ => .inl, fun _ _ => .inl⟩
    cases vk with
    | none => exact hst
    | some verb => exact delMeth_lookup hd hst fun _ e => Option.some.inj e ▸ hne

theorem delRule_keeps {counts : List String} (hs : AliveSound counts) {name : Nat} {n n' : Node}
    (h : delRule counts name n = some n') {ks : List KEdge} {vk : Option Bytes} {m : Meth} (hne : m.mid ≠ name) :
    StoredK n ks vk m → StoredK n' ks vk m := by
  induction ks generalizing n n' with
  | nil => exact (delRule_step h).1 vk m hne
  | cons e ks ih =>
    obtain ⟨_, _, hsegs, hvars⟩ := delRule_step h
    -- the child the way goes through is untouched, or is the one `delRule` went into: it still
    -- binds `m` (induction), so it is alive and was kept
    have kept c c' (hd : delRule counts name c = some c') (hc : StoredK c ks vk m) :=
      stored_alive hs (ih hd hc)
    cases e with
    | seg k =>
      rintro ⟨c, hl, hc⟩
      rcases hsegs k c hl with h1 | ⟨c', h1, h2⟩
      · exact ⟨c, h1, hc⟩
      · exact ⟨c', h2 (kept c c' h1 hc), ih h1 hc⟩
    | var nm =>
      rintro ⟨v, c, hm, hn, hc⟩
      rcases hvars v c hm with h1 | ⟨c', h1, h2⟩
      · exact ⟨v, c, h1, hn, hc⟩
      · exact ⟨v, c', h2 (kept c c' h1 hc), hn, ih h1 hc⟩

theorem delSegs_keeps (counts : List String) (hs : AliveSound counts) (name : Nat) :
    ∀ (segs segs' : List (Bytes × Node)), delSegs counts name segs = some segs' →
    ∀ k ks vk m, m.mid ≠ name → (∃ c, lookupSeg segs k = some c ∧ StoredK c ks vk m) →
    ∃ c, lookupSeg segs' k = some c ∧ StoredK c ks vk m := by
  intro segs segs' h k ks
  have hd : delRule counts name (.mk segs [] none []) = some (.mk segs' [] none []) := by
    simp only [delRule, h]
  exact fun _ _ => delRule_keeps hs hd (ks := .seg k :: ks)

theorem delVars_keeps (counts : List String) (hs : AliveSound counts) (name : Nat) :
    ∀ (vars vars' : List (Var × Node)), delVars counts name vars = some vars' →
    ∀ nm ks vk m, m.mid ≠ name → (∃ v c, (v, c) ∈ vars ∧ v.name = nm ∧ StoredK c ks vk m) →
    ∃ v c, (v, c) ∈ vars' ∧ v.name = nm ∧ StoredK c ks vk m := by
  intro vars vars' h nm ks
  have hd : delRule counts name (.mk [] [] none vars) = some (.mk [] [] none vars') := by
    simp only [delRule, delSegs, h]
  exact fun _ _ => delRule_keeps hs hd (ks := .var nm :: ks)

theorem lookupMeth_mem' (ms : List (Bytes × Meth)) (verb : Bytes) (m : Meth)
    (h : lookupMeth ms verb = some m) : ∃ p ∈ ms, p.2 = m := lookupMeth_mem h

/-- the lookups a reader can make on a node; `delRule` never invents one (keys are map keys:
unique), so this is stated over list membership, the order-free reading of a Go map. -/
def BoundIn : Node → List KEdge → Option Bytes → Meth → Prop
  | n, [], some verb, m => (verb, m) ∈ n.methods
  | n, [], none, m => n.all = some m
  | n, .seg k :: ks, vk, m => ∃ c, (k, c) ∈ n.segs ∧ BoundIn c ks vk m
  | n, .var nm :: ks, vk, m => ∃ v c, (v, c) ∈ n.vars ∧ v.name = nm ∧ BoundIn c ks vk m

theorem delRule_only_removes {counts : List String} {name : Nat} {n n' : Node}
    (h : delRule counts name n = some n') {ks : List KEdge} {vk : Option Bytes} {m : Meth} :
    BoundIn n' ks vk m → BoundIn n ks vk m := by
  induction ks generalizing n n' with
  | nil =>
    obtain ⟨segs, methods, all, vars⟩ := n
    rcases delRule_eq_some h with ⟨_, _, rfl⟩ | ⟨_, _, rfl⟩ | ⟨ms, hd, rfl⟩
    · cases vk <;> exact id
    · cases vk <;> exact id
    · cases vk with
      | some verb => exact delMeth_only_removes hd _
      | none => exact id
  | cons e ks ih =>
    obtain ⟨segs, methods, all, vars⟩ := n
    rcases delRule_eq_some h with ⟨segs', hd, rfl⟩ | ⟨vars', hd, rfl⟩ | ⟨_, _, rfl⟩
    · cases e with
      | var _ => exact id
      | seg k =>
        rintro ⟨c', hm, hc⟩
        rcases hd.mem_bwd hm with h1 | ⟨c, h1, h2⟩
        · exact ⟨c', h1, hc⟩
        · exact ⟨c, h1, ih h2 hc⟩
    · cases e with
      | seg _ => exact id
      | var nm =>
        rintro ⟨v, c', hm, hn, hc⟩
        rcases hd.mem_bwd hm with h1 | ⟨c, h1, h2⟩
        · exact ⟨v, c', h1, hn, hc⟩
        · exact ⟨v, c, h1, hn, ih h2 hc⟩
    · cases e <;> exact id

theorem delSegs_only_removes (counts : List String) (name : Nat) :
    ∀ (segs segs' : List (Bytes × Node)), delSegs counts name segs = some segs' →
    ∀ k c, (k, c) ∈ segs' → ∀ ks vk m, BoundIn c ks vk m → ∃ c0, (k, c0) ∈ segs ∧ BoundIn c0 ks vk m := by
  intro segs segs' h k c' hm ks vk m hc
  rcases (delSegs_some h).mem_bwd hm with h1 | ⟨c, h1, h2⟩
  · exact ⟨c', h1, hc⟩
  · exact ⟨c, h1, delRule_only_removes h2 hc⟩

theorem delVars_only_removes (counts : List String) (name : Nat) :
    ∀ (vars vars' : List (Var × Node)), delVars counts name vars = some vars' →
    ∀ v c, (v, c) ∈ vars' → ∀ ks vk m, BoundIn c ks vk m → ∃ c0, (v, c0) ∈ vars ∧ BoundIn c0 ks vk m := by
  intro vars vars' h v c' hm ks vk m hc
  rcases (delVars_some h).mem_bwd hm with h1 | ⟨c, h1, h2⟩
  · exact ⟨c', h1, hc⟩
  · exact ⟨c, h1, delRule_only_removes h2 hc⟩

theorem delRule_none {counts : List String} {name : Nat} {n : Node} (h : delRule counts name n = none)
    {ks : List KEdge} {verb : Bytes} {m : Meth} : BoundIn n ks (some verb) m → m.mid ≠ name := by
  induction ks generalizing n with
  | nil =>
    obtain ⟨segs, methods, all, vars⟩ := n
    exact delMeth_none (delRule_eq_none h).2.2 _
  | cons e ks ih =>
    obtain ⟨segs, methods, all, vars⟩ := n
    obtain ⟨hsg, hv, _⟩ := delRule_eq_none h
    cases e with
    | seg k => rintro ⟨c, hc, hb⟩; exact ih (hsg _ hc) hb
    | var nm => rintro ⟨v, c, hc, _, hb⟩; exact ih (hv _ hc) hb

theorem delSegs_none (counts : List String) (name : Nat) :
    ∀ (segs : List (Bytes × Node)), delSegs counts name segs = none →
    ∀ k c, (k, c) ∈ segs → ∀ ks verb m, BoundIn c ks (some verb) m → m.mid ≠ name :=
  fun _ h _ _ hm _ _ _ => delRule_none (delKids_none (delSegs_eq .. ▸ h) _ hm)

theorem delVars_none (counts : List String) (name : Nat) :
    ∀ (vars : List (Var × Node)), delVars counts name vars = none →
    ∀ v c, (v, c) ∈ vars → ∀ ks verb m, BoundIn c ks (some verb) m → m.mid ≠ name :=
  fun _ h _ _ hm _ _ _ => delRule_none (delKids_none (delVars_eq .. ▸ h) _ hm)

theorem delAll_induct {counts : List String} {name : Nat} {P : Node → Prop}
    (step : ∀ n n', delRule counts name n = some n' → P n → P n') :
    ∀ (fuel : Nat) (n : Node), P n → P (delAll counts name fuel n) := by
  intro fuel n
  fun_induction delAll counts name fuel n with
  | case1 | case3 => exact id
  | case2 fuel n n' hd ih => exact fun h => ih (step n n' hd h)

end Larking.Trie
