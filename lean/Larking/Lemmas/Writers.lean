import Larking.Model.Writers
import Larking.Lemmas.Registry
namespace Larking.Writers
open Larking.Registry

/-- for the order `canon`: the lock is held exactly by a thread between its Lock and its Unlock, a thread
that has loaded works on the published state, and that state is the sequential result of the stored calls. -/
structure Inv (ch : Chooser) (s : Sys) : Prop where
  heldIff : ∀ i, (s.ths i).held = true ↔ (1 ≤ (s.ths i).pc ∧ (s.ths i).pc ≤ 4)
  mutex : ∀ i j, (s.ths i).held = true → (s.ths j).held = true → i = j
  lockedIf : ∀ i, (s.ths i).held = true → s.locked = true
  loaded : ∀ i, (s.ths i).pc = 2 → (s.ths i).loc = s.pub
  modified : ∀ i, (s.ths i).pc = 3 → (s.ths i).loc = (step ch s.pub (s.ths i).op).1
  serial : s.pub = run ch St.init s.log

theorem inv_init (ch : Chooser) (ops : Nat → Op) : Inv ch (Sys.init ops) := by
  constructor <;> simp [Sys.init, run]

/-- a thread is outside its critical section. -/
def Out (t : Th) : Prop := t.held = false ∧ (t.pc = 0 ∨ 5 ≤ t.pc)

/-- `h` covers every step that changes anything: the stepping thread holds the lock, or takes a free one. -/
theorem Inv.others_out {ch : Chooser} {s : Sys} (hi : Inv ch s) (i : Nat)
    (h : (s.ths i).held = true ∨ s.locked = false) (j : Nat) (hj : j ≠ i) : Out (s.ths j) := by
  have hf : (s.ths j).held = false := by
    cases hh : (s.ths j).held with
    | false => rfl
    | true =>
      rcases h with h | h
      · exact absurd (hi.mutex j i hh h) hj
      · rw [hi.lockedIf j hh] at h; cases h
  have := hi.heldIff j
  rw [hf] at this
  exact ⟨hf, by simp at this; omega⟩

/-- when every other thread is outside, the invariant speaks about thread `i` alone. -/
theorem inv_of_others_out {ch : Chooser} {s : Sys} {i : Nat} (hout : ∀ j, j ≠ i → Out (s.ths j))
    {t : Th} {pub : St} {locked : Bool} {log : List Op}
    (h1 : t.held = true ↔ 1 ≤ t.pc ∧ t.pc ≤ 4) (h2 : t.held = true → locked = true)
    (h3 : t.pc = 2 → t.loc = pub) (h4 : t.pc = 3 → t.loc = (step ch pub t.op).1)
    (h5 : pub = run ch St.init log) : Inv ch ⟨pub, locked, put s.ths i t, log⟩ := by
  have hput : ∀ j, put s.ths i t j = t ∨ Out (put s.ths i t j) := fun j => by
    by_cases hj : j = i
    · subst hj; exact Or.inl (put_same ..)
    · rw [put_other _ _ hj]; exact Or.inr (hout j hj)
  refine ⟨fun j => ?_, fun j k hj hk => ?_, fun j hj => ?_, fun j hj => ?_, fun j hj => ?_, h5⟩ <;>
    dsimp only at *
  · rcases hput j with h | h
    · rw [h]; exact h1
    · rw [h.1, Bool.false_eq_true, false_iff]; have := h.2; omega
  · by_cases hji : j = i <;> by_cases hki : k = i
    · rw [hji, hki]
    · rw [put_other _ _ hki, (hout k hki).1] at hk; cases hk
    · rw [put_other _ _ hji, (hout j hji).1] at hj; cases hj
    · rw [put_other _ _ hji, (hout j hji).1] at hj; cases hj
  · rcases hput j with h | h
    · rw [h] at hj; exact h2 hj
    · rw [h.1] at hj; cases hj
  · rcases hput j with h | h
    · rw [h] at hj ⊢; exact h3 hj
    · have := h.2; omega
  · rcases hput j with h | h
    · rw [h] at hj ⊢; exact h4 hj
    · have := h.2; omega

theorem canon_pc {pc : Nat} {st : Stmt} (h : canon[pc]? = some st) : pc = st.ctorIdx :=
  -- `canon` lists every statement once, at its constructor index
  (List.getElem?_inj (List.getElem?_eq_some_iff.mp h).1 (by decide)).mp (h.trans (by cases st <;> rfl))

theorem step_inv (ch : Chooser) (s : Sys) (i : Nat) (hi : Inv ch s) : Inv ch (stepTh canon ch s i) := by
  have hheld := hi.heldIff i
  have hlock := hi.lockedIf i
  have hout := hi.others_out i
  simp only [stepTh]
  cases hst : canon[(s.ths i).pc]? with
  | none => exact hi
  | some st =>
    have hpc := canon_pc hst
    have hin : 1 ≤ st.ctorIdx → st.ctorIdx ≤ 4 → ∀ j, j ≠ i → Out (s.ths j) :=
      fun h1 h4 => hout (Or.inl (hheld.mpr (hpc ▸ ⟨h1, h4⟩)))
    rw [hpc] at hheld
    cases st <;> simp only [Stmt.ctorIdx] at hpc hheld hin ⊢
    case lock =>
      split
      · exact hi
      · rename_i hl
        exact inv_of_others_out (hout (Or.inr (by simpa using hl))) (by simp [hpc]) (fun _ => rfl) (by simp [hpc])
          (by simp [hpc]) hi.serial
    case load =>
      exact inv_of_others_out (hin (by decide) (by decide)) (by simp [hheld, hpc]) hlock
        (fun _ => rfl) (by simp [hpc]) hi.serial
    case modify =>
      exact inv_of_others_out (hin (by decide) (by decide)) (by simp [hheld, hpc]) hlock
        (by simp [hpc]) (fun _ => by rw [hi.loaded i hpc]) hi.serial
    case store =>
      refine inv_of_others_out (hin (by decide) (by decide)) (by simp [hheld, hpc]) hlock
        (by simp [hpc]) (by simp [hpc]) ?_
      rw [hi.modified i hpc, hi.serial]; simp [run, List.foldl_append]
    case unlock =>
      exact inv_of_others_out (hin (by decide) (by decide)) (by simp [hpc]) (by simp) (by simp [hpc])
        (by simp [hpc]) hi.serial

theorem sched_inv (ch : Chooser) (sched : List Nat) (s : Sys) (hi : Inv ch s) : Inv ch (runSched canon ch s sched) :=
  List.foldlRecOn sched _ hi fun s hs i _ => step_inv ch s i hs

theorem pub_atomic (ch : Chooser) (s : Sys) (i : Nat) (hi : Inv ch s) :
    (stepTh canon ch s i).pub = s.pub ∨
    (stepTh canon ch s i).pub = (step ch s.pub (s.ths i).op).1 := by
  simp only [stepTh]
  cases hst : canon[(s.ths i).pc]? with
  | none => exact Or.inl rfl
  | some st =>
    cases st
    case store => exact Or.inr (hi.modified i (canon_pc hst))
    case lock => simp only; split <;> exact Or.inl rfl
    all_goals exact Or.inl rfl

end Larking.Writers
