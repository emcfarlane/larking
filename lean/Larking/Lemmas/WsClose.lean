import Larking.Model.WsClose
namespace Larking.WsClose

theorem trimTail_prefix (b : Bytes) : trimTail b <+: b := by
  fun_cases trimTail b <;> simp [List.take_prefix]

theorem reason_short {max : Nat} {msg : Bytes} (h : msg.length ≤ max) (rs : Bool) :
    reason max rs msg = msg := by
  simp [reason, Nat.not_lt.mpr h]

theorem reason_long {max : Nat} {msg : Bytes} (h : max < msg.length) (rs : Bool) :
    reason max rs msg <+: msg.take max := by
  simp only [reason, h, if_true]
  cases rs
  · exact List.prefix_refl _
  · exact trimTail_prefix _

theorem reason_prefix (max : Nat) (rs : Bool) (msg : Bytes) : reason max rs msg <+: msg := by
  by_cases h : max < msg.length
  · exact (reason_long h rs).trans (List.take_prefix _ _)
  · rw [reason_short (Nat.not_lt.mp h)]; exact List.prefix_refl _

theorem reason_length (max : Nat) (rs : Bool) (msg : Bytes) : (reason max rs msg).length ≤ max := by
  by_cases h : max < msg.length
  · exact Nat.le_trans (reason_long h rs).length_le (List.length_take_le _ _)
  · rw [reason_short (Nat.not_lt.mp h)]; exact Nat.not_lt.mp h

theorem body_length (code : Nat) (r : Bytes) : (body code r).length = r.length + 2 := rfl

end Larking.WsClose
