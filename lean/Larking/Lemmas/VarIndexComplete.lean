import Larking.Lemmas.Routes
import Larking.Lemmas.Accept
/-
  `GMatch pat cap rest` says declaratively which request tokens `cap` a variable's pattern covers in front of
  `rest` (`*` = the maximal run of non-separator tokens, `**` = everything up to the verb), and `varIndex` finds
  exactly `cap`.  `EdgeInst` is `EdgeMatch` with that reading in place of the executable `varIndex`.
-/
namespace Larking.Trie
open Larking.Lexer

/-- `run ++ (cap ++ rest) ≠ []` at `*` and `**`: `variable.index` gives up in front of any pattern token once
the request is used up (`if i == n { return -1 }`), also one that could match the empty run. -/
inductive GMatch : List Tok → List Tok → List Tok → Prop
  | nil (rest : List Tok) : GMatch [] [] rest
  | slash (p t : Tok) (ps cap rest : List Tok) : p.typ = .slash → t.typ = .slash →
      GMatch ps cap rest → GMatch (p :: ps) (t :: cap) rest
  | literal (p t : Tok) (ps cap rest : List Tok) : p.typ = .literal → t.typ = .path → p.val = t.val →
      GMatch ps cap rest → GMatch (p :: ps) (t :: cap) rest
  | star (p : Tok) (ps run cap rest : List Tok) : p.typ = .star → run ++ (cap ++ rest) ≠ [] →
      (∀ x ∈ run, isSep x = false) → (∀ y ys, cap ++ rest = y :: ys → isSep y = true) →
      GMatch ps cap rest → GMatch (p :: ps) (run ++ cap) rest
  | starstar (p : Tok) (ps run cap rest : List Tok) : p.typ = .starstar → run ++ (cap ++ rest) ≠ [] →
      (∀ x ∈ run, x.typ ≠ .verb) → (∀ y ys, cap ++ rest = y :: ys → y.typ = .verb) →
      GMatch ps cap rest → GMatch (p :: ps) (run ++ cap) rest

theorem takeWhile_append_stop {α} (f : α → Bool) (run tail : List α) (hr : ∀ x ∈ run, f x = true)
    (ht : ∀ y ys, tail = y :: ys → f y = false) : (run ++ tail).takeWhile f = run := by
  rw [List.takeWhile_append_of_pos hr]
  cases tail with
  | nil => simp
  | cons y ys => simp [ht y ys rfl]

theorem varIndex_star {p : Tok} (hp : p.typ = .star) (ps : List Tok) {rem : List Tok} (hne : rem ≠ []) (i : Nat) :
    varIndex (p :: ps) rem i = varIndex ps (rem.drop (rem.takeWhile fun x => !isSep x).length)
      (i + (rem.takeWhile fun x => !isSep x).length) := by
  obtain _ | ⟨t, ts⟩ := rem
  · exact absurd rfl hne
  · simp only [varIndex, hp]

theorem varIndex_starstar {p : Tok} (hp : p.typ = .starstar) (ps : List Tok) {rem : List Tok} (hne : rem ≠ []) (i : Nat) :
    varIndex (p :: ps) rem i = varIndex ps (rem.drop (rem.takeWhile fun x => x.typ != .verb).length)
      (i + (rem.takeWhile fun x => x.typ != .verb).length) := by
  obtain _ | ⟨t, ts⟩ := rem
  · exact absurd rfl hne
  · simp only [varIndex, hp]

theorem varIndex_complete {pat cap rest : List Tok} (h : GMatch pat cap rest) (i : Nat) :
    varIndex pat (cap ++ rest) i = .ok (some (i + cap.length)) := by
  induction h generalizing i with
  | nil rest => rfl
  | slash p t ps cap rest hp ht _ ih =>
    simp only [List.cons_append, varIndex, hp, ht, bne_self_eq_false, Bool.false_eq_true, if_false]
    rw [ih (i + 1), List.length_cons, Nat.add_assoc, Nat.add_comm 1]
  | literal p t ps cap rest hp ht hv _ ih =>
    simp only [List.cons_append, varIndex, hp, ht, hv, bne_self_eq_false, Bool.or_self, Bool.false_eq_true, if_false]
    rw [ih (i + 1), List.length_cons, Nat.add_assoc, Nat.add_comm 1]
  | star p ps run cap rest hp hne hrun hstop _ ih =>
    -- the run `*` skips is `run`: its tokens are no separators, the token behind it is one
    rw [List.append_assoc, varIndex_star hp ps hne, takeWhile_append_stop _ run _ (fun x hx => by rw [hrun x hx]; rfl)
      (fun y ys hy => by rw [hstop y ys hy]; rfl), List.drop_left, ih, List.length_append, Nat.add_assoc]
  | starstar p ps run cap rest hp hne hrun hstop _ ih =>
    rw [List.append_assoc, varIndex_starstar hp ps hne, takeWhile_append_stop _ run _ (fun x hx => bne_iff_ne.mpr (hrun x hx))
      (fun y ys hy => by rw [hstop y ys hy]; rfl), List.drop_left, ih, List.length_append, Nat.add_assoc]

inductive EdgeInst : List Edge → List Tok → Prop
  | nil (toks : List Tok) : toks.length ≤ 1 → EdgeInst [] toks
  | seg (t0 t1 : Tok) (rest : List Tok) (es : List Edge) :
      EdgeInst es rest → EdgeInst (.seg (t0.val ++ t1.val) :: es) (t0 :: t1 :: rest)
  | var (v : Var) (t0 : Tok) (cap rest : List Tok) (es : List Edge) :
      t0.typ = .slash → cap ≠ [] → GMatch v.toks cap rest → EdgeInst es rest →
      EdgeInst (.var v :: es) (t0 :: (cap ++ rest))

theorem edgeInst_edgeMatch {es : List Edge} {toks : List Tok} (h : EdgeInst es toks) : EdgeMatch es toks := by
  induction h with
  | nil toks hlen => exact .nil toks hlen
  | seg t0 t1 rest es _ ih => exact .seg t0 t1 rest es ih
  | var v t0 cap rest es ht0 hcap hg _ ih =>
    have hidx := varIndex_complete hg 0
    refine .var v t0 (cap ++ rest) cap.length es ht0 ?_ (Nat.zero_add cap.length ▸ hidx) (List.drop_left ▸ ih)
    cases cap with
    | nil => exact absurd rfl hcap
    | cons a as => exact Nat.succ_pos _

theorem bindingEdges_of_grammar {cap : Nat} {resolve : List Bytes → Option Nat} {b : Binding} {t : Tmpl}
    (ht : t.Wf) (hb : b.tmpl = t.render) (hcap : t.toks.length ≤ cap) (hres : t.Resolves resolve) :
    bindingEdges cap resolve b = some t.edges :=
  bindingEdges_of_parsed (hb ▸ lexTemplate_complete cap t ht hcap) (parseToks_tmpl resolve t hres _ t.more_length_le)

end Larking.Trie
