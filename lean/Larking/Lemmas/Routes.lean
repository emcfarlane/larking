import Larking.Lemmas.Complete
import Larking.Lemmas.Build
/-
  From registration to dispatch (C02, end to end over the trie): a binding's own way is there right after
  its insertion and outlives every later one, so that `way_dispatched` (`Lemmas/Complete`) applies to the
  final trie.
-/
namespace Larking.Trie
open Larking.Lexer

/-- `n'` routes every request that `n` routes, not necessarily to the same method. -/
def Ext (n n' : Node) : Prop := ∀ verb toks es, Way verb n toks es → Way verb n' toks es

theorem Ext.refl (n : Node) : Ext n n := fun _ _ _ h => h
theorem Ext.trans {a b c : Node} (h1 : Ext a b) (h2 : Ext b c) : Ext a c :=
  fun v t e h => h2 v t e (h1 v t e h)

theorem register_binds {n n' : Node} {verb : Bytes} {mid : Nat} {mk : Unit → Outcome Meth}
    (h : register n verb mid mk = .ok n') {v : Bytes} (hb : Binds v n) : Binds v n' := by
  obtain ⟨m, _, rfl | ⟨_, rfl⟩ | ⟨_, rfl⟩⟩ := register_ok_cases h
  · exact hb
  · exact hb.imp_right fun _ => Option.some_ne_none m
  · refine hb.imp_left fun hl => ?_
    simp only [Node.methods, lookupMeth_upsert]
    split
    · exact Option.some_ne_none m
    · exact hl

theorem register_binds_new {n n' : Node} {verb : Bytes} {mid : Nat} {mk : Unit → Outcome Meth}
    (h : register n verb mid mk = .ok n') {v : Bytes} (hv : verb = starVerb ∨ v = verb) : Binds v n' := by
  obtain ⟨p, hp, rfl⟩ := register_ok_iff.mp h
  have hs := slotOf_regG_self hp
  unfold slotOf at hs
  by_cases hstar : (verb == starVerb) = true
  · rw [if_pos hstar] at hs; exact Or.inr hs
  · obtain rfl : v = verb := hv.resolve_left fun he => hstar (by simp [he])
    rw [if_neg hstar] at hs; exact Or.inl hs

theorem Ext.of_children {n n' : Node} (hb : ∀ verb, Binds verb n → Binds verb n')
    (hs : ∀ k c, lookupSeg n.segs k = some c → ∃ c', lookupSeg n'.segs k = some c' ∧ Ext c c')
    (hv : ∀ v c, (v, c) ∈ n.vars → ∃ c', (v, c') ∈ n'.vars ∧ Ext c c') : Ext n n' := by
  intro verb toks es hw
  cases hw with
  | here _ _ hlen hb' => exact .here _ _ hlen (hb verb hb')
  | seg _ ch t0 t1 rest es hl hw' =>
    obtain ⟨c', hl', he⟩ := hs _ ch hl
    exact .seg _ c' t0 t1 rest es hl' (he verb rest es hw')
  | var _ ch w t0 toks1 i es ht0 hmem hlen hidx hw' =>
    obtain ⟨c', hm', he⟩ := hv w ch hmem
    exact .var _ c' w t0 toks1 i es ht0 hm' hlen hidx (he verb _ es hw')

theorem Ext.ofEmpty (n : Node) : Ext .empty n :=
  .of_children (fun _ hb => hb.elim (absurd rfl) (absurd rfl)) nofun nofun

theorem register_ext {n n' : Node} {verb : Bytes} {mid : Nat} {mk : Unit → Outcome Meth}
    (h : register n verb mid mk = .ok n') : Ext n n' := by
  have hb := fun v => register_binds h (v := v)
  obtain ⟨p, _, rfl⟩ := register_ok_iff.mp h
  exact .of_children hb (fun _ c hl => ⟨c, hl, .refl c⟩) (fun _ c hm => ⟨c, hm, .refl c⟩)

theorem Ext.setChild {n c : Node} {e : Edge} (h : Ext (child n e) c) : Ext n (setChild n e c) := by
  obtain ⟨segs, methods, all, vars⟩ := n
  cases e with
  | seg k =>
    refine .of_children (fun _ hb => hb) (fun k' ch hl => ?_) (fun _ ch hm => ⟨ch, hm, .refl ch⟩)
    by_cases hk : k = k'
    · subst hk
      rw [child, show lookupSeg segs k = some ch from hl] at h
      exact ⟨c, lookupSeg_upsert_same _ _ _, h⟩
    · exact ⟨ch, (lookupSeg_upsert_other hk).trans hl, .refl ch⟩
  | var v =>
    refine .of_children (fun _ hb => hb) (fun _ ch hl => ⟨ch, hl, .refl ch⟩) (fun w ch hm => ?_)
    rcases mem_upsertVar_keep vars v c hm with h1 | ⟨h1, h2⟩
    · exact ⟨ch, h1, .refl ch⟩
    · rw [child, varChild, h1] at h
      exact ⟨c, h2, h⟩

theorem insertAt_ext (f : Node → Outcome Node) (hf : ∀ x x', f x = .ok x' → Ext x x') :
    ∀ (es : List Edge) (n n' : Node), insertAt n es f = .ok n' → Ext n n' := by
  intro es
  induction es with
  | nil => exact hf
  | cons e more ih =>
    intro n n' h
    obtain ⟨c, hc, rfl⟩ := insertAt_cons_ok.mp h
    exact .setChild (ih _ c hc)

theorem addBinding_ext {cap : Nat} {resolve} {n n' : Node} {b : Binding} {mid : Nat}
    (h : addBinding cap resolve n b mid = .ok n') : Ext n n' := by
  obtain ⟨_, p, hl, hp⟩ := addBinding_parsed h
  rw [addBinding_eq hl hp] at h
  exact insertAt_ext _ (fun _ _ => register_ext) _ n n' h

theorem addAll_ext {cap : Nat} {l : List Step} {n n' : Node} (h : addAll cap l n = .ok n') : Ext n n' :=
  addAll_fold cap Ext Ext.refl Ext.trans l (fun _ _ _ _ => addBinding_ext) n n' h

theorem buildAll_ext (cap : Nat) : ∀ (rs : List (Rule × Nat × (List Bytes → Option Nat))) (n n' : Node),
    buildAll cap rs n = .ok n' → Ext n n' :=
  fun rs n _ h => addAll_ext ((buildAll_ok_iff cap rs n).mp h).2

/-- the request tokens `toks` are an instance of the binding's edges. -/
inductive EdgeMatch : List Edge → List Tok → Prop
  | nil (toks : List Tok) : toks.length ≤ 1 → EdgeMatch [] toks
  | seg (t0 t1 : Tok) (rest : List Tok) (es : List Edge) :
      EdgeMatch es rest → EdgeMatch (.seg (t0.val ++ t1.val) :: es) (t0 :: t1 :: rest)
  | var (v : Var) (t0 : Tok) (toks1 : List Tok) (i : Nat) (es : List Edge) :
      t0.typ = .slash → 1 ≤ toks1.length → varIndex v.toks toks1 0 = .ok (some i) →
      EdgeMatch es (toks1.drop i) → EdgeMatch (.var v :: es) (t0 :: toks1)

/-- `addVariable` finds an existing variable by the *text* of its pattern; the new binding's
pattern is matched as written only if the variable found there has the same tokens. -/
def Agree : Node → List Edge → Prop
  | _, [] => True
  | .mk segs _ _ _, .seg k :: es => Agree ((lookupSeg segs k).getD .empty) es
  | .mk _ _ _ vars, .var v :: es =>
    (∀ v' c', lookupVar vars v.name = some (v', c') → v'.toks = v.toks) ∧ Agree (varChild vars v.name) es

theorem insertAt_way (verb : Bytes) (f : Node → Outcome Node) (hf : ∀ x x', f x = .ok x' → Binds verb x') :
    ∀ (es : List Edge) (n n' : Node), insertAt n es f = .ok n' → Agree n es →
    ∀ toks, EdgeMatch es toks → ∃ es', es'.map keyOf = es.map keyOf ∧ Way verb n' toks es' := by
  intro es n n' h hag toks hm
  induction hm generalizing n n' with
  | nil _ hlen => exact ⟨[], rfl, .here _ _ hlen (hf n n' h)⟩
  | seg t0 t1 rest _ _ ih =>
    obtain ⟨segs, methods, all, vars⟩ := n
    obtain ⟨c, hc, rfl⟩ := insertAt_cons_ok.mp h
    obtain ⟨es', hk, hw⟩ := ih _ c hc hag
    exact ⟨.seg (t0.val ++ t1.val) :: es', by simp only [List.map_cons, keyOf, hk],
      .seg _ c t0 t1 rest es' (lookupSeg_upsert_same _ _ _) hw⟩
  | var v t0 toks1 i _ ht0 hlen hidx _ ih =>
    obtain ⟨segs, methods, all, vars⟩ := n
    obtain ⟨c, hc, rfl⟩ := insertAt_cons_ok.mp h
    obtain ⟨es', hk, hw⟩ := ih _ c hc hag.2
    -- the variable stored under `v.name` is `v` or an older one with the same pattern text
    obtain ⟨v', hl, hv'⟩ := lookupVar_upsert_same vars v c
    obtain ⟨hmem, hname⟩ := lookupVar_mem hl
    have ht : v'.toks = v.toks := by
      rcases hv' with rfl | ⟨c0, hv'⟩
      · rfl
      · exact hag.1 v' c0 hv'
    exact ⟨.var v' :: es', by simp only [List.map_cons, keyOf, hk, hname],
      .var _ c v' t0 toks1 i es' ht0 hmem hlen (ht ▸ hidx) hw⟩

/-- the edges `addBinding` walks for a binding (`none` when the template is refused). -/
def bindingEdges (cap : Nat) (resolve : List Bytes → Option Nat) (b : Binding) : Option (List Edge) :=
  match lexTemplate cap b.tmpl with
  | .ok toks => (match parseToks resolve (toks.length + 1) toks with
    | .ok p => some p.edges
    | _ => none)
  | _ => none

theorem bindingEdges_of_parsed {cap : Nat} {resolve : List Bytes → Option Nat} {b : Binding} {toks : List Tok}
    {p : Parsed} (hl : lexTemplate cap b.tmpl = .ok toks) (hp : parseToks resolve (toks.length + 1) toks = .ok p) :
    bindingEdges cap resolve b = some p.edges := by
  simp only [bindingEdges, hl, hp]

theorem addBinding_ok_edges {cap : Nat} {resolve} {n n' : Node} {b : Binding} {mid : Nat}
    (h : addBinding cap resolve n b mid = .ok n') : ∃ es mk, bindingEdges cap resolve b = some es ∧
      ∀ x, addBinding cap resolve x b mid = insertAt x es fun node => register node b.verb mid mk := by
  obtain ⟨toks, p, hl, hp⟩ := addBinding_parsed h
  exact ⟨p.edges, _, bindingEdges_of_parsed hl hp, fun x => addBinding_eq hl hp x mid⟩

theorem addBinding_way {cap : Nat} {resolve} {n n' : Node} {b : Binding} {mid : Nat}
    (h : addBinding cap resolve n b mid = .ok n') {es : List Edge}
    (he : bindingEdges cap resolve b = some es) (hag : Agree n es)
    {toks : List Tok} (hm : EdgeMatch es toks) {verb : Bytes} (hv : b.verb = starVerb ∨ verb = b.verb) :
    ∃ es', es'.map keyOf = es.map keyOf ∧ Way verb n' toks es' := by
  obtain ⟨es', mk, he', heq⟩ := addBinding_ok_edges h
  obtain rfl : es = es' := Option.some.inj (he.symm.trans he')
  rw [heq] at h
  exact insertAt_way verb _ (fun _ _ hx => register_binds_new hx hv) _ n n' h hag toks hm

/-! `addVariable` keys a variable by the text of its pattern.  The lexer is a function of the text,
so across one rule set two variables with the same pattern text have the same pattern tokens:
`g` is that function.  While every variable of the trie satisfies `toks = g name`, a new binding
whose variables satisfy it too meets `Agree`. -/

/-- every variable of the trie, at every depth, carries the tokens `g` gives for its name. -/
inductive NFg (g : Bytes → List Tok) : Node → Prop
  | mk (segs methods all vars) : (∀ p ∈ segs, NFg g p.2) → (∀ p ∈ vars, p.1.toks = g p.1.name) →
      (∀ p ∈ vars, NFg g p.2) → NFg g (.mk segs methods all vars)

def edgeG (g : Bytes → List Tok) : Edge → Prop
  | .seg _ => True
  | .var v => v.toks = g v.name

theorem NFg_empty (g) : NFg g .empty := .mk _ _ _ _ (fun _ h => nomatch h) (fun _ h => nomatch h) (fun _ h => nomatch h)

theorem NFg_child {g} {n : Node} (hn : NFg g n) (e : Edge) : NFg g (child n e) := by
  obtain h | h := child_cases n e
  · rw [h]; exact NFg_empty g
  · obtain ⟨segs, methods, all, vars, hs, _, hv⟩ := hn
    cases e with
    | seg k => obtain ⟨_, _, hm⟩ := lookupSeg_mem segs k _ h; exact hs _ hm
    | var v => obtain ⟨_, hm, _⟩ := h; exact hv _ hm

theorem NFg_setChild {g} {n c : Node} {e : Edge} (hn : NFg g n) (hc : NFg g c) (he : edgeG g e) :
    NFg g (setChild n e c) := by
  obtain ⟨segs, methods, all, vars, hs, ht, hv⟩ := hn
  cases e with
  | seg k =>
    refine .mk _ _ _ _ (fun p hp => ?_) ht hv
    rcases mem_upsertKV hp with h | rfl
    · exact hs p h
    · exact hc
  | var v =>
    refine .mk _ _ _ _ hs (fun p hp => ?_) (fun p hp => ?_) <;>
      rcases mem_upsertVar hp with h | ⟨rfl, _, h⟩
    · exact ht p h
    · rcases h with h | ⟨c0, h0⟩
      · rw [h]; exact he
      · exact ht (p.1, c0) h0
    · exact hv p h
    · exact hc

theorem register_NFg {g} {n n' : Node} {verb : Bytes} {mid : Nat} {mk : Unit → Outcome Meth}
    (h : register n verb mid mk = .ok n') (hn : NFg g n) : NFg g n' := by
  obtain ⟨p, _, rfl⟩ := register_ok_iff.mp h
  obtain ⟨segs, methods, all, vars, h1, h2, h3⟩ := hn
  exact .mk _ _ _ _ h1 h2 h3

theorem insertAt_NFg {g} {f : Node → Outcome Node} (hf : ∀ x x', f x = .ok x' → NFg g x → NFg g x') {es : List Edge}
    (hes : ∀ e ∈ es, edgeG g e) {n n' : Node} (h : insertAt n es f = .ok n') (hn : NFg g n) : NFg g n' := by
  induction es generalizing n n' with
  | nil => exact hf n n' h hn
  | cons e more ih =>
    obtain ⟨c, hc, rfl⟩ := insertAt_cons_ok.mp h
    exact NFg_setChild hn (ih (fun e he => hes e (.tail _ he)) hc (NFg_child hn e)) (hes e (.head _))

theorem agree_of_NFg {g} {es : List Edge} (hes : ∀ e ∈ es, edgeG g e) {n : Node} (hn : NFg g n) : Agree n es := by
  induction es generalizing n with
  | nil => trivial
  | cons e more ih =>
    have ih := ih (fun e he => hes e (.tail _ he)) (NFg_child hn e)
    obtain ⟨segs, methods, all, vars, _, ht, _⟩ := hn
    cases e with
    | seg k => exact ih
    | var v =>
      refine ⟨fun v' c' hl => ?_, ih⟩
      obtain ⟨hm, hname⟩ := lookupVar_mem hl
      rw [ht _ hm, hname]
      exact (hes (.var v) (.head _)).symm

/-- the binding's variables obey `g` (equal pattern text ⇒ equal pattern tokens). -/
def BindingG (cap : Nat) (g : Bytes → List Tok) (resolve : List Bytes → Option Nat) (b : Binding) : Prop :=
  ∀ es, bindingEdges cap resolve b = some es → ∀ e ∈ es, edgeG g e

theorem addBinding_NFg {cap : Nat} {g} {resolve} {n n' : Node} {b : Binding} {mid : Nat}
    (h : addBinding cap resolve n b mid = .ok n') (hn : NFg g n) (hb : BindingG cap g resolve b) : NFg g n' := by
  obtain ⟨es, mk, he, heq⟩ := addBinding_ok_edges h
  rw [heq] at h
  exact insertAt_NFg (fun _ _ => register_NFg) (hb es he) h hn

theorem addAll_NFg {cap : Nat} {g} {l : List Step} (hg : ∀ s ∈ l, BindingG cap g s.resolve s.b) {n n' : Node}
    (h : addAll cap l n = .ok n') (hn : NFg g n) : NFg g n' :=
  addAll_fold cap (fun a b => NFg g a → NFg g b) (fun _ h => h) (fun f g h => g (f h)) l
    (fun s hs _ _ h hn => addBinding_NFg h hn (hg s hs)) n n' h hn

/-- the request (`verb`, `toks`) is one that binding `b` describes: the tokens instantiate the edges
`addRule` walks for `b`, and the verb is `b`'s kind (any verb when `b` binds `*`). -/
def Routed (cap : Nat) (resolve : List Bytes → Option Nat) (b : Binding) (verb : Bytes) (toks : List Tok) : Prop :=
  ∃ es, bindingEdges cap resolve b = some es ∧ EdgeMatch es toks ∧ (b.verb = starVerb ∨ verb = b.verb)

/-- up to the binding's turn the trie's variables obey `g`, so its insertion creates the way; the later
insertions keep it. -/
theorem addAll_way {cap : Nat} {g} {l : List Step} {n n' : Node} (h : addAll cap l n = .ok n') (hn : NFg g n)
    (hg : ∀ s ∈ l, BindingG cap g s.resolve s.b) {s : Step} (hs : s ∈ l) {verb : Bytes} {toks : List Tok}
    (hr : Routed cap s.resolve s.b verb toks) : ∃ es', Way verb n' toks es' := by
  obtain ⟨l1, l2, rfl⟩ := List.append_of_mem hs
  obtain ⟨a, h1, h2⟩ := addAll_append_ok.mp h
  obtain ⟨a', h3, h4⟩ := addAll_cons_ok.mp h2
  have hna := addAll_NFg (fun s m => hg s (List.mem_append_left _ m)) h1 hn
  obtain ⟨es, hedges, hinst, hkind⟩ := hr
  obtain ⟨es', _, hw⟩ := addBinding_way h3 hedges (agree_of_NFg (hg s hs es hedges) hna) hinst hkind
  exact ⟨es', addAll_ext h4 verb toks es' hw⟩

theorem buildAll_way {cap : Nat} {g} {rs : List (Rule × Nat × (List Bytes → Option Nat))} {n n' : Node}
    (h : buildAll cap rs n = .ok n') (hn : NFg g n) (hg : ∀ e ∈ rs, ∀ b ∈ e.1.bindings, BindingG cap g e.2.2 b)
    {e} (he : e ∈ rs) {b} (hb : b ∈ e.1.bindings) {verb toks} (hr : Routed cap e.2.2 b verb toks) :
    ∃ es', Way verb n' toks es' :=
  addAll_way ((buildAll_ok_iff cap rs n).mp h).2 hn
    (fun s hs => by obtain ⟨e, he, b, hb, rfl⟩ := mem_stepsOf.mp hs; exact hg e he b hb)
    (s := ⟨b, e.2.1, e.2.2⟩) (mem_stepsOf.mpr ⟨e, he, b, hb, rfl⟩) hr

end Larking.Trie
